import MpsProofs.Frame
import MpsProofs.Typed
import MpsProofs.TypedEncode
import MpsProofs.Forall2
import MpsProofs.Digest
import MpsProofs.Session
import MpsProofs.HandlerCases
import MpsProofs.Handler
import MpsProofs.Echo
import MpsProofs.Blame
import MpsProofs.ReplayOrder
import MpsProofs.Confluence
import MpsProofs.Sim
import MpsProofs.Honest
import MpsProofs.Order
import MpsProofs.HonestRun
import MpsProofs.System
import MpsProofs.SessionEval
import MpsProofs.AnyRun
import MpsProofs.Byz
import MpsProofs.TwoParty
import MpsProofs.TwoPartyOrder
import MpsProofs.System2
import MpsProofs.Pool
import MpsProofs.Readers
import MpsProofs.Nonce
import MpsProofs.PaillierArith
import MpsProofs.Paillier
import MpsProofs.PaillierBigKey
import MpsProofs.Sig
import MpsProofs.SigBytes
import MpsProofs.AlgebraAttr
import MpsProofs.Algebra
import MpsProofs.AlgebraSharing
import MpsProofs.AlgebraSign
import MpsProofs.OTBits
import MpsProofs.OTClmul
import MpsProofs.OTRandom
import MpsProofs.OTExtend
import MpsProofs.OTMaskLoop
import MpsProofs.OTAlgebra
import MpsProofs.ZKSigma
import MpsProofs.ZKModel
import MpsProofs.Start
import MpsProofs.Codec
