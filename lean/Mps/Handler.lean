import Mps.Commit
/-
  M5: `protocol.MultiHandler` (pkg/protocol/handler.go) as a state machine over an abstract,
  scripted protocol. The state mirrors the Go struct field by field; every function below whose comment
  names a Go method is a transcription of it, the others are the scripted protocol. The out channel is
  modelled as the list of messages emitted so far plus a close counter.

  The protocol run by the handler is a *script*: a list of rounds (number, expects-broadcast,
  expects-p2p). Message contents carry a value and flag bits; a round's verification fails iff
  the corresponding flag is set, stored values are summed (a commutative fold — the only thing
  the model assumes about rounds) and the last round outputs the sum. The same script is
  implemented against the real `round.Session` interface in the harness (suite `handler`).
-/
namespace Mps.Handler
open Mps

/-- decoded message content of the scripted protocol -/
structure Content where
  v : Nat
  f : Nat          -- flag bits, see below
  deriving DecidableEq, Repr, Inhabited

def fFailVerify : Nat := 1   -- VerifyMessage returns an error
def fFailStore  : Nat := 2   -- StoreMessage returns an error
def fFailStoreB : Nat := 4   -- StoreBroadcastMessage returns an error
def fAccuse     : Nat := 8   -- the round's Finalize returns AbortRound naming the sender

def hasFlag (f bit : Nat) : Bool := (f / bit) % 2 == 1

structure Msg where
  ssid  : Option Bytes
  frm   : Bytes
  to    : Bytes
  proto : Bytes
  rnd   : Nat
  data  : Option Bytes          -- nil Data is refused by CanAccept
  bcast : Bool
  bv    : Option Bytes          -- BroadcastVerification
  dec   : Option Content        -- what cbor.Unmarshal(data) into the round's content type gives
  deriving DecidableEq, Repr, Inhabited

structure RoundSpec where
  num   : Nat
  recvB : Bool     -- is a BroadcastRound
  recvP : Bool     -- MessageContent() ≠ nil
  deriving DecidableEq, Repr, Inhabited

structure Script where
  ids       : List Bytes        -- sorted party ids
  self      : Bytes
  final     : Nat               -- FinalRoundNumber
  rounds    : List RoundSpec    -- in execution order; the first one has recvB = recvP = false
  proto     : Bytes
  ssid      : Bytes
  sess      : List Item         -- the items in the session hash (`Helper.hash`)
  finErrAt  : Nat               -- own Finalize returns an error in the round with this number (0: never)
  deriving Repr, Inhabited

inductive ErrKind where
  | msgFail (frm : Bytes)          -- decode / verify / store failure of a message from `frm`
  | peerAbort (frm : Bytes)        -- a round-0 message: abort notice from `frm`
  | echoMismatch                   -- broadcast verification failed (no culprit)
  | finalizeErr                    -- own Finalize failed (culprit: self)
  | protoAbort (culprits : List Bytes)  -- the protocol's abort round
  | stopped                        -- Stop() by the user (culprit: self)
  deriving DecidableEq, Repr, Inhabited

structure State where
  sc      : Script
  idx     : Nat                         -- index of currentRound in sc.rounds (valid while cur ≠ 0)
  cur     : Nat                         -- currentRound.Number(); 0 once in Output / Abort
  reached : List Nat                    -- keys of h.rounds
  msgs    : List (Nat × Bytes × Msg)    -- h.messages: stored (round, from, msg)
  bc      : List (Nat × Bytes × Msg)    -- h.broadcast
  bh      : List (Nat × Bytes)          -- h.broadcastHashes
  err     : Option ErrKind
  result  : Option Nat
  out     : List Msg                    -- everything sent on h.out so far, in order
  closes  : Nat                         -- number of close(h.out) executed
  acc     : Nat                         -- protocol state: sum of stored values
  accused : List Bytes                  -- protocol state: senders whose stored content had fAccuse
  deriving Repr, Inhabited

def others (sc : Script) : List Bytes := sc.ids.filter (· != sc.self)

def lookup (q : List (Nat × Bytes × Msg)) (r : Nat) (frm : Bytes) : Option Msg :=
  (q.find? fun e => e.1 == r && e.2.1 == frm).map (·.2.2)

def bhLookup (bh : List (Nat × Bytes)) (r : Nat) : Option Bytes :=
  (bh.find? fun e => e.1 == r).map (·.2)

/-- `newQueue`: slots exist for rounds 2 … final and the given senders -/
def hasSlot (sc : Script) (r : Nat) : Bool := 2 ≤ r && r ≤ sc.final

def curSpec (s : State) : RoundSpec := s.sc.rounds.getD s.idx default

/-- `Message.IsFor` -/
def isFor (m : Msg) (id : Bytes) : Bool := if m.frm == id then false else (m.to == [] || m.to == id)

/-- `MultiHandler.CanAccept` -/
def canAccept (s : State) (m : Msg) : Bool :=
  isFor m s.sc.self
  && m.proto == s.sc.proto
  && (m.ssid.getD [] == s.sc.ssid)
  && s.sc.ids.contains m.frm
  && m.data.isSome
  && !(m.rnd > s.sc.final)
  && !(m.rnd < s.cur && m.rnd > 0)

/-- `duplicate` -/
def duplicate (s : State) (m : Msg) : Bool :=
  if m.rnd == 0 then false
  else if !hasSlot s.sc m.rnd then true
  else if m.bcast then (lookup s.bc m.rnd m.frm).isSome else (lookup s.msgs m.rnd m.frm).isSome

/-- `store`: first message wins; only into existing queues -/
def store (s : State) (m : Msg) : State :=
  if !hasSlot s.sc m.rnd then s
  else if m.bcast then
    (if (lookup s.bc m.rnd m.frm).isSome then s else { s with bc := s.bc ++ [(m.rnd, m.frm, m)] })
  else
    (if (lookup s.msgs m.rnd m.frm).isSome then s else { s with msgs := s.msgs ++ [(m.rnd, m.frm, m)] })

/-- `abort(err, culprits…)`; `none` is the `abort(nil)` after a result -/
def abort (s : State) (e : Option ErrKind) : State :=
  match e with
  | some k =>
    let notice : Msg := { ssid := some s.sc.ssid, frm := s.sc.self, to := [], proto := s.sc.proto, rnd := 0,
                          data := some [], bcast := false, bv := none, dec := none }
    { s with err := some k, out := s.out ++ [notice], closes := s.closes + 1 }
  | none => { s with closes := s.closes + 1 }

/-- the protocol's `VerifyMessage` + `StoreMessage` for a p2p message -/
def roundStoreP2P (s : State) (m : Msg) : Option State :=
  match m.dec with
  | none => none
  | some c =>
    if hasFlag c.f fFailVerify || hasFlag c.f fFailStore then none
    else some { s with acc := s.acc + c.v, accused := if hasFlag c.f fAccuse then s.accused ++ [m.frm] else s.accused }

/-- the protocol's `StoreBroadcastMessage` -/
def roundStoreBcast (s : State) (m : Msg) : Option State :=
  match m.dec with
  | none => none
  | some c =>
    if hasFlag c.f fFailStoreB then none
    else some { s with acc := s.acc + c.v, accused := if hasFlag c.f fAccuse then s.accused ++ [m.frm] else s.accused }

/-- outcome of verifying one message -/
inductive VRes where
  | ok (s : State)      -- stored (or nothing to do yet)
  | bad                 -- decoding / verification / storing failed: the sender is blamed
  | echo                -- the sender holds another view of the previous round's broadcasts: nobody is blamed

/-- `sameBroadcastView`: the hash of the previous round's broadcasts attached to `m` equals ours -/
def sameView (s : State) (m : Msg) : Bool :=
  match bhLookup s.bh (m.rnd - 1) with
  | none => true
  | some prev => m.bv.getD [] == prev

/-- `verifyMessage` for a message of the current round -/
def verifyMessage (s : State) (m : Msg) : VRes :=
  if !s.reached.contains m.rnd then .ok s
  else if (curSpec s).recvB && (lookup s.bc m.rnd m.frm).isNone then .ok s
  else if !sameView s m then .echo
  else if !(curSpec s).recvP then .bad      -- getRoundMessage: MessageContent() is nil ⇒ unmarshal error
  else match roundStoreP2P s m with
    | none => .bad
    | some s' => .ok s'

/-- `verifyBroadcastMessage` -/
def verifyBroadcastMessage (s : State) (m : Msg) : VRes :=
  if !s.reached.contains m.rnd then .ok s
  else if !sameView s m then .echo
  else if !(curSpec s).recvB then .bad      -- "got broadcast message when none was expected"
  else match roundStoreBcast s m with
    | none => .bad
    | some s1 =>
      if !(curSpec s1).recvP then .ok s1
      else match lookup s1.msgs m.rnd m.frm with
        | none => .ok s1
        | some p => verifyMessage s1 p

/-- honest content value of the scripted protocol: a fixed function of (sender, recipient, round) -/
def honestV (sc : Script) (frm to : Bytes) (r : Nat) : Nat :=
  (sc.ids.idxOf frm + 1) * 1000 + (if to == [] then 0 else (sc.ids.idxOf to + 1) * 10) + r

/-- minimal CBOR of the content struct `{V uint64; F uint8}` with `toarray`: 0x82, uint, uint -/
def cborUint (n : Nat) : Bytes :=
  if n < 24 then [UInt8.ofNat n]
  else if n < 256 then [24, UInt8.ofNat n]
  else if n < 65536 then 25 :: beN 2 n
  else if n < 4294967296 then 26 :: beN 4 n
  else 27 :: beN 8 n

def cborContent (c : Content) : Bytes := 0x82 :: (cborUint c.v ++ cborUint c.f)

/-- `Message.Hash` as an item list (To = "" and nil byte strings are refused by WriteAny and skipped) -/
def msgHashItems (m : Msg) : List Item :=
  let opt (dom : String) (b : Option Bytes) : List Item := match b with | none => [] | some x => [⟨str dom, x⟩]
  opt "SSID" m.ssid
  ++ (if m.frm = [] then [] else [⟨str "ID", m.frm⟩])
  ++ (if m.to = [] then [] else [⟨str "ID", m.to⟩])
  ++ [⟨str "Protocol", m.proto⟩, ⟨str "Round Number", be64 m.rnd⟩]
  ++ opt "Content" m.data
  ++ [⟨str "Broadcast", [if m.bcast then 1 else 0]⟩]
  ++ opt "BroadcastVerification" m.bv

def msgHash (H : Bytes → Bytes) (m : Msg) : Bytes := digestWith H (msgHashItems m)

/-- the echo hash of a broadcast round: session hash state, then every party's message hash in id order -/
def echoHash (H : Bytes → Bytes) (sc : Script) (bc : List (Nat × Bytes × Msg)) (r : Nat) : Option Bytes :=
  let ms := sc.ids.map fun id => lookup bc r id
  if ms.all Option.isSome then
    some (digestWith H (sc.sess ++ ms.filterMap (fun o => o.map fun m => ⟨str "Message", msgHash H m⟩)))
  else none

/-- the part of `receivedAll` that fills `broadcastHashes[number]` once every broadcast is there -/
def fillBh (H : Bytes → Bytes) (s : State) : State :=
  if (curSpec s).recvB && hasSlot s.sc s.cur then
    match echoHash H s.sc s.bc s.cur with
    | some h => if (bhLookup s.bh s.cur).isNone then { s with bh := s.bh ++ [(s.cur, h)] } else s
    | none => s
  else s

def p2pAll (s : State) : Bool :=
  if (curSpec s).recvP then
    (if !hasSlot s.sc s.cur then true else (others s.sc).all fun id => (lookup s.msgs s.cur id).isSome)
  else true

/-- the boolean answer of `receivedAll` -/
def receivedAllB (H : Bytes → Bytes) (s : State) : Bool :=
  if (curSpec s).recvB then
    (if !hasSlot s.sc s.cur then true      -- h.broadcast[number] == nil ⇒ "return true"
     else if (echoHash H s.sc s.bc s.cur).isNone then false
     else p2pAll s)
  else p2pAll s

/-- `receivedAll` (also fills broadcastHashes) -/
def receivedAll (H : Bytes → Bytes) (s : State) : Bool × State := (receivedAllB H s, fillBh H s)

/-- `checkBroadcastHash` -/
def checkBroadcastHash (s : State) : Bool :=
  match bhLookup s.bh (s.cur - 1) with
  | none => true
  | some prev =>
    (s.msgs.all fun e => e.1 != s.cur || e.2.2.bv.getD [] == prev)
    && (s.bc.all fun e => e.1 != s.cur || e.2.2.bv.getD [] == prev)

/-- what the scripted `Finalize` of the current round sends for the next round `nx` -/
def emitFor (s : State) (nx : RoundSpec) : List Msg :=
  let bvv := bhLookup s.bh (nx.num - 1)     -- h.broadcastHashes[r.Number()-1], r the NEW round
  let mk (to : Bytes) (b : Bool) : Msg :=
    let c : Content := ⟨honestV s.sc s.sc.self to nx.num, 0⟩
    { ssid := some s.sc.ssid, frm := s.sc.self, to := to, proto := s.sc.proto, rnd := nx.num,
      data := some (cborContent c), bcast := b, bv := bvv, dec := some c }
  (if nx.recvB then [mk [] true] else []) ++ (if nx.recvP then (others s.sc).map fun id => mk id false else [])

inductive Next where
  | round (idx : Nat) (spec : RoundSpec)
  | output (v : Nat)
  | abortRound (culprits : List Bytes)
  | error
  deriving Repr

/-- the scripted protocol's `Finalize` of the current round -/
def protoFinalize (s : State) : Next :=
  if s.sc.finErrAt != 0 && s.sc.finErrAt == s.cur then .error
  else if s.accused != [] then .abortRound s.accused
  else match s.sc.rounds[s.idx + 1]? with
    | some nx => .round (s.idx + 1) nx
    | none => .output s.acc

/-- why the replay of the queued messages stopped -/
inductive Fail where
  | culprit (c : Bytes)
  | echo
  deriving DecidableEq, Repr

def failOf (r : VRes) (frm : Bytes) (st : State) : State × Option Fail :=
  match r with
  | .ok st' => (st', none)
  | .bad => (st, some (.culprit frm))
  | .echo => (st, some .echo)

/-- one iteration of the loops over the queued messages in `finalize` -/
def replayStep (sp : RoundSpec) (n : Nat) (acc : State × Option Fail) (id : Bytes) : State × Option Fail :=
  match acc with
  | (st, some c) => (st, some c)
  | (st, none) =>
    if sp.recvB then
      if id == st.sc.self then (st, none) else
      match lookup st.bc n id with
      | none => (st, none)
      | some m => failOf (verifyBroadcastMessage st m) m.frm st
    else
      match lookup st.msgs n id with
      | none => (st, none)
      | some m => failOf (verifyMessage st m) m.frm st

/-- replay of the queued messages on entering a round (Go iterates a map; the model uses id order —
    which failure ends the session can depend on it: `Mps.Drv.Handler.acceptO` has the order as a parameter) -/
def replayQueued (s : State) : State × Option Fail :=
  s.sc.ids.foldl (replayStep (curSpec s) s.cur) (s, none)

/-- `abortVerification` -/
def errOf : Fail → ErrKind
  | .culprit c => .msgFail c
  | .echo => .echoMismatch

/-- the Output / Abort round has number 0 -/
def enter0 (s : State) : State := { s with reached := s.reached ++ [0], cur := 0 }

/-- own broadcast messages are stored; everything is sent -/
def sendAll (s : State) (ems : List Msg) : State :=
  let s2 := ems.foldl (fun st m => if m.bcast then store st m else st) s
  { s2 with out := s2.out ++ ems }

def enter (s : State) (i : Nat) (nx : RoundSpec) : State :=
  { s with reached := s.reached ++ [nx.num], cur := nx.num, idx := i }

inductive Step where
  | halt (s : State)      -- `finalize` returns
  | more (s : State)      -- `finalize` calls itself (a new round was entered and its queue replayed)

/-- one pass through the body of `finalize` -/
def finalizeStep (H : Bytes → Bytes) (s : State) : Step :=
  let s1 := fillBh H s
  if !receivedAllB H s then .halt s1
  else if !checkBroadcastHash s1 then .halt (abort s1 (some .echoMismatch))
  else match protoFinalize s1 with
    | .error => .halt (abort s1 (some .finalizeErr))
    | .abortRound cs =>
      if s1.reached.contains 0 then .halt s1 else .halt (abort (enter0 s1) (some (.protoAbort cs)))
    | .output v =>
      if s1.reached.contains 0 then .halt s1 else .halt (abort { enter0 s1 with result := some v } none)
    | .round i nx =>
      let s3 := sendAll s1 (emitFor s1 nx)
      if s3.reached.contains nx.num then .halt s3
      else match replayQueued (enter s3 i nx) with
        | (s5, some f) => .halt (abort s5 (some (errOf f)))
        | (s5, none) => .more s5

/-- `finalize`, with its tail recursion bounded by fuel (one unit per round entered) -/
def finalize (H : Bytes → Bytes) : Nat → State → State
  | 0, s => s
  | fuel + 1, s =>
    match finalizeStep H s with
    | .halt s' => s'
    | .more s' => finalize H fuel s'

/-- the handler struct as `NewMultiHandler` fills it in, before its first `finalize()` -/
def state0 (sc : Script) : State :=
  let r1 := sc.rounds.getD 0 default
  { sc := sc, idx := 0, cur := r1.num, reached := [r1.num], msgs := [], bc := [], bh := [],
    err := none, result := none, out := [], closes := 0, acc := 0, accused := [] }

/-- `NewMultiHandler` -/
def init (H : Bytes → Bytes) (sc : Script) : State := finalize H (sc.rounds.length + 1) (state0 sc)

def terminal (s : State) : Bool := s.err.isSome || s.result.isSome

/-- the part of `Accept` after the message was stored -/
def acceptStored (H : Bytes → Bytes) (s1 : State) (m : Msg) : State :=
  if s1.cur != m.rnd then s1
  else match (if m.bcast then verifyBroadcastMessage s1 m else verifyMessage s1 m) with
    | .bad => abort s1 (some (.msgFail m.frm))
    | .echo => abort s1 (some .echoMismatch)
    | .ok s2 => finalize H (s2.sc.rounds.length + 1) s2

/-- `Accept` -/
def accept (H : Bytes → Bytes) (s : State) (m : Msg) : State :=
  if !canAccept s m || terminal s || duplicate s m then s
  else if m.rnd == 0 then abort s (some (.peerAbort m.frm))
  else acceptStored H (store s m) m

/-- `Stop`: ends a running session, no-op otherwise -/
def stop (s : State) : State := if terminal s then s else abort s (some .stopped)

/-- culprit list reported by `Result()` for an error -/
def culpritsOf (sc : Script) : ErrKind → List Bytes
  | .msgFail f => [f]
  | .peerAbort f => [f]
  | .echoMismatch => []
  | .finalizeErr => [sc.self]
  | .protoAbort cs => cs
  | .stopped => [sc.self]

/-- the API of a handler -/
inductive Call where
  | accept (m : Msg)
  | canAccept (m : Msg)
  | listen
  | result
  | stop
  deriving Repr

/-- effect of a call on the handler state (CanAccept / Listen / Result only read) -/
def apply (H : Bytes → Bytes) (s : State) : Call → State
  | .accept m => accept H s m
  | .stop => stop s
  | _ => s

/-- any sequence of API calls on a freshly created handler -/
def run (H : Bytes → Bytes) (sc : Script) (calls : List Call) : State := calls.foldl (apply H) (init H sc)

end Mps.Handler
