import Mps.Start
/-
  M7 / C15: the decision logic of the restore paths, over a field-tree abstraction of the encoding
  (field ↦ absent | null | present-but-degenerate | good); the byte syntax of CBOR belongs to the
  third-party decoder and is not modelled. `fixed = false` transcribes the tree as found, `fixed = true`
  the tree with the guards (which of the two applies is read off regenerated guard tables).

  Sources: protocols/cmp/config/marshal.go `Config.UnmarshalBinary`; protocols/frost/keygen/config.go,
  protocols/doerner/keygen/keygen.go, pkg/ecdsa (default struct decoding into the Empty… templates, and
  `UnmarshalCBOR` + `Validate` once present); pkg/protocol/message.go `Message.UnmarshalBinary`;
  pkg/math/polynomial/exponent.go `Exponent.UnmarshalBinary`.
-/
namespace Mps.Codec
open Mps Mps.Start

/-- class of a field of the encoding as the decoder meets it -/
inductive FV where
  | absent   -- key missing
  | null     -- CBOR null
  | bad      -- decodes, but violates the field's rule (zero scalar, identity point, wrong size, even modulus …)
  | good
  deriving DecidableEq, Repr, Inhabited

/-! ### polynomial.Exponent.UnmarshalBinary -/

structure ExpIn where
  len    : Nat            -- length of the data
  count  : Nat            -- the 4-byte big-endian count at its head (meaningful when len ≥ 4)
  coeffs : Option Nat     -- number of coefficients the CBOR part decodes to (none: CBOR error)
  nullCoeff : Bool        -- a coefficient is CBOR null
  isConstant : Bool
  deriving DecidableEq, Repr, Inhabited

/-- (outcome, number of curve points allocated before the CBOR part is looked at).
    `fixed = false`: no length check, count used unchecked. `fixed = true`: the length and count guards (the code's
    bound `count ≤ (len-4)/32` implies the bound `count ≤ len` used here), announced count = decoded count, no null
    coefficient, no empty non-constant exponent. -/
def exponentDecode (fixed : Bool) (i : ExpIn) : Out × Nat :=
  if i.len < 4 then (if fixed then .err else .crash, 0) else
  if fixed && i.count > i.len then (.err, 0) else
  let alloc := i.count
  match i.coeffs with
  | none => (.err, alloc)
  | some n =>
    if i.nullCoeff then (if fixed then .err else .crash, alloc) else
    if fixed && n != i.count then (.err, alloc) else
    if fixed && !i.isConstant && i.count == 0 then (.err, alloc) else (.ok, alloc)

/-! ### cmp Config.UnmarshalBinary -/

structure PubTree where
  id    : Bytes
  ecdsa : FV
  elgamal : FV
  n     : FV     -- 2048-bit odd modulus
  s     : FV     -- Pedersen s, t: units mod N, different
  t     : FV
  deriving DecidableEq, Repr, Inhabited

structure CmpTree where
  topNull : Bool            -- the whole item is CBOR null
  id      : Bytes
  thr     : Int
  ecdsa   : FV
  elgamal : FV
  p       : FV              -- safe Blum primes of 1024 bits
  q       : FV
  rid     : FV              -- 32 bytes, not all zero
  chainKey : FV             -- absent is allowed; present means 32 bytes, not all zero
  pub     : List PubTree
  deriving DecidableEq, Repr, Inhabited

/-- an interface field pre-allocated in the template: null makes the decoder panic (recovered once guarded) -/
def ifaceField (fixed : Bool) (v : FV) (k : Out) : Out :=
  match v with
  | .null => if fixed then .err else .crash
  | .bad => .err
  | .absent => .err            -- stays the zero scalar / identity point of the template: refused by the zero check
  | .good => k

/-- a pointer field checked by a nil-safe validator -/
def ptrField (v : FV) (k : Out) : Out := if v == .good then k else .err

def pubLoop (fixed : Bool) (self : Bytes) (seen : List Bytes) : List PubTree → Out
  | [] => .ok
  | e :: rest =>
    -- the record is decoded first: null points panic inside the decoder
    if e.ecdsa == .null || e.elgamal == .null then (if fixed then .err else .crash) else
    -- a point has no degenerate encoding (the identity cannot be marshalled): `bad` bytes fail to decode, also in the own record
    if e.ecdsa == .bad || e.elgamal == .bad then .err else
    if fixed && e.id == [] then .err else
    if seen.contains e.id then .err else
    if e.id == self then
      -- own record: public keys are recomputed from the secrets; without the guard S, T are taken as they come
      (if fixed && !(e.s == .good && e.t == .good) then .err else pubLoop fixed self (e.id :: seen) rest)
    else
      ptrField e.n <| (if e.s == .good && e.t == .good then
        (if e.ecdsa == .good && e.elgamal == .good then pubLoop fixed self (e.id :: seen) rest else .err) else .err)

def cmpRestore (fixed : Bool) (t : CmpTree) : Out :=
  if t.topNull then (if fixed then .err else .crash) else     -- `cbor.Unmarshal(data, &cm)` leaves cm nil; cm.ECDSA is then dereferenced
  ifaceField fixed t.ecdsa <| ifaceField fixed t.elgamal <|
  (if fixed && t.id == [] then .err else
   if fixed && t.rid != .good then .err else
   -- a chain key is a byte string decoded into a slice: CBOR null gives the empty slice, i.e. no chain key
   if fixed && !(t.chainKey == .good || t.chainKey == .absent || t.chainKey == .null) then .err else
   ptrField t.p <| ptrField t.q <|
   andThen (pubLoop fixed t.id [] t.pub) <|
     if !validThreshold t.thr t.pub.length then .err else
     if !(t.pub.map (·.id)).contains t.id then .err else .ok)

/-- the validity rules of a restored CMP config, on the tree -/
def CmpWellFormed (t : CmpTree) : Prop :=
  t.topNull = false ∧ t.id ≠ [] ∧ t.ecdsa = .good ∧ t.elgamal = .good ∧ t.p = .good ∧ t.q = .good ∧ t.rid = .good ∧
    (t.chainKey = .good ∨ t.chainKey = .absent ∨ t.chainKey = .null) ∧
    (∀ e ∈ t.pub, e.id ≠ [] ∧ e.s = .good ∧ e.t = .good ∧ (e.id ≠ t.id → e.n = .good ∧ e.ecdsa = .good ∧ e.elgamal = .good)) ∧
    (t.pub.map (·.id)).Nodup ∧ t.id ∈ t.pub.map (·.id) ∧ 0 ≤ t.thr ∧ t.thr < t.pub.length

/-! ### types restored by the default struct decoding (frost / doerner configs, PreSignature, Signature) -/

structure PlainIn where
  topNull    : Bool          -- the whole item is CBOR null (decodes "successfully" into nothing)
  ifaceNull  : Bool          -- some pre-allocated point / scalar field is CBOR null
  rulesHold  : Bool          -- the restored object satisfies the validity rules of its type
  deriving DecidableEq, Repr, Inhabited

/-- (outcome, the restored object is the untouched template) -/
def plainRestore (fixed : Bool) (i : PlainIn) : Out × Bool :=
  if fixed then
    (if i.topNull || i.ifaceNull || !i.rulesHold then (.err, false) else (.ok, false))
  else
    (if i.topNull then (.ok, true) else if i.ifaceNull then (.crash, false) else (.ok, false))

/-! ### protocol.Message.UnmarshalBinary -/

/-- (outcome, message left as it was) given whether the CBOR decodes and whether it is null -/
def messageRestore (fixed : Bool) (decodes : Bool) (isNull : Bool) : Out × Bool :=
  if !decodes then (if fixed then (.err, false) else (.ok, true))
  else if isNull then (if fixed then (.err, false) else (.ok, true))
  else (.ok, false)

/-! ### the judgement on a described restored object (driver side) -/

def descOk (rules : List Bool) (thr : Int) (ids : List Bytes) (self : Bytes) : Bool :=
  rules.all id && idsValid ids && ids.contains self && ids.all (· != []) && 0 ≤ thr && thr < (ids.length : Int)

end Mps.Codec
