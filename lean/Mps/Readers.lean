/-
  Readers (core-only). Three small models of how the library draws bytes from a caller-supplied io.Reader:

  * `readFull`  — io.ReadFull over a source that hands out its stream in pieces of ANY positive sizes (a Read call may
                  return fewer bytes than asked for: buffered, non-blocking, network-backed sources do). This is how
                  taproot.SecretKey.Sign takes its 32 auxiliary bytes and how sample.* fill their buffers.
  * `readOnce`  — one Read call, byte count ignored (what `rand.Read(a)` instead of io.ReadFull would do).
  * `serve`     — pool.LockedReader: the Read calls of the workers of one Search are serialised, so k calls for n bytes
                  each are handed k consecutive blocks of the stream, whatever the interleaving of the workers.
-/
namespace Mps.Readers

/-- io.ReadFull: call Read until `want` bytes are there; the i-th call delivers at most `chunks[i]` bytes. The schedule
    ending before the buffer is full is the source running dry (io.ErrUnexpectedEOF: fewer bytes are returned). -/
def readFull {α : Type} : List α → Nat → List Nat → List α
  | _, 0, _ => []
  | _, _ + 1, [] => []
  | s, want + 1, c :: cs =>
    let k := min c (want + 1)
    s.take k ++ readFull (s.drop k) (want + 1 - k) cs

/-- one Read call into a zeroed buffer of `want` bytes, the returned count ignored: the rest stays zero -/
def readOnce (s : List UInt8) (want : Nat) : List Nat → List UInt8
  | [] => List.replicate want 0
  | c :: _ => let k := min c want; s.take k ++ List.replicate (want - (s.take k).length) 0

/-- k serialised Read calls for n bytes each -/
def serve {α : Type} (s : List α) (n : Nat) : Nat → List (List α)
  | 0 => []
  | k + 1 => s.take n :: serve (s.drop n) n k

end Mps.Readers
