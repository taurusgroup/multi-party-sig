import Mps.Sig
import MpsGen.Sig
/-
  Three functions of /repo have two shapes the driver has a model for: without (`…Shipped`) and with
  (`…Fixed`) the change of /verif/hooks/secp256k1-strict-prefix.diff, secp256k1-liftx-length.diff,
  ecdsa-sigethereum-reduce-r.diff. Which shape /repo has is read off the tables the translator
  regenerates from the source on every run. Any third shape of these functions matches neither table:
  the `…Shipped` model is then used and the obligations `gen_point_unmarshal` / `gen_liftx` /
  `gen_sig_ethereum` of MpsProps/C16.lean fail.
-/
namespace Mps.Sig.Variant
open Mps Mps.Secp Mps.Sig

def pointUnmarshalShipped : List String :=
  [ "len(data) != 33 => fmt.Errorf(\"invalid length for secp256k1Point: %d\", len(data))",
    "p.value.X.SetByteSlice(data[1:]) => fmt.Errorf(\"secp256k1Point.UnmarshalBinary: x coordinate out of range\")",
    "!secp256k1.DecompressY(&p.value.X, data[0] == 3, &p.value.Y) => fmt.Errorf(\"secp256k1Point.UnmarshalBinary: x coordinate not on curve\")",
    "p.value.Z.SetInt(1)",
    "p.value.X.SetByteSlice(data[1:])",
    "secp256k1.DecompressY(&p.value.X, data[0] == 3, &p.value.Y)" ]

def pointUnmarshalFixed : List String :=
  [ "len(data) != 33 => fmt.Errorf(\"invalid length for secp256k1Point: %d\", len(data))",
    "data[0] != 2 && data[0] != 3 => fmt.Errorf(\"secp256k1Point.UnmarshalBinary: invalid prefix byte: %#x\", data[0])",
    "p.value.X.SetByteSlice(data[1:]) => fmt.Errorf(\"secp256k1Point.UnmarshalBinary: x coordinate out of range\")",
    "!secp256k1.DecompressY(&p.value.X, data[0] == 3, &p.value.Y) => fmt.Errorf(\"secp256k1Point.UnmarshalBinary: x coordinate not on curve\")",
    "p.value.Z.SetInt(1)",
    "p.value.X.SetByteSlice(data[1:])",
    "secp256k1.DecompressY(&p.value.X, data[0] == 3, &p.value.Y)" ]

def liftXShipped : List String :=
  [ "out.value.X.SetByteSlice(data) => nil, fmt.Errorf(\"secp256k1Point.UnmarshalBinary: x coordinate out of range\")",
    "!secp256k1.DecompressY(&out.value.X, false, &out.value.Y) => nil, fmt.Errorf(\"secp256k1Point.UnmarshalBinary: x coordinate not on curve\")",
    "out.value.Z.SetInt(1)", "out.value.X.SetByteSlice(data)",
    "secp256k1.DecompressY(&out.value.X, false, &out.value.Y)" ]

def liftXFixed : List String :=
  "len(data) != 32 => nil, fmt.Errorf(\"secp256k1Point.LiftX: invalid length for an x coordinate: %d\", len(data))"
    :: liftXShipped

def sigEthereumShipped : List String × List String :=
  ([ "sig.S.IsOverHalfOrder()", "if IsOverHalfOrder: sig.S.Negate()", "sig.R.MarshalBinary()",
     "sig.S.MarshalBinary()", "make([]byte, 0, 65)", "append(rs, r...)", "append(rs, s...)",
     "if IsOverHalfOrder: copy(rs, rs[1:])", "if else: copy(rs, rs[1:])", "sig.R.UnmarshalBinary(r)" ],
   [ "if IsOverHalfOrder: v := rs[0] - 2", "if IsOverHalfOrder: rs[64] = v ^ 1",
     "if else: v := rs[0] - 2", "if else: rs[64] = v", "r[0] = rs[64] + 2" ])

def sigEthereumFixedTable : List String × List String :=
  ([ "sig.S.IsOverHalfOrder()", "if IsOverHalfOrder: sig.S.Negate()", "sig.R.MarshalBinary()",
     "sig.S.MarshalBinary()", "sig.R.XScalar().MarshalBinary()", "make([]byte, 0, 65)", "append(rs, r[0])",
     "append(rs, rModN...)", "append(rs, s...)",
     "if IsOverHalfOrder: copy(rs, rs[1:])", "if else: copy(rs, rs[1:])", "sig.R.UnmarshalBinary(r)" ],
   [ "if IsOverHalfOrder: v := rs[0] - 2", "if IsOverHalfOrder: rs[64] = v ^ 1",
     "if else: v := rs[0] - 2", "if else: rs[64] = v", "r[0] = rs[64] + 2", "if reduced: rs[64] |= 2" ])

/-- the source has the strict prefix check -/
def strictPrefix : Bool := MpsGen.Sig.pointUnmarshal == pointUnmarshalFixed
/-- the source has the length check in `LiftX` -/
def liftXLen : Bool := MpsGen.Sig.liftX == liftXFixed
/-- the source exports r mod n -/
def ethReduced : Bool := (MpsGen.Sig.sigEthereum, MpsGen.Sig.sigEthereumAssigns) == sigEthereumFixedTable

/-- the models of the code in the working tree -/
def decodeCur (bs : Bytes) : Option Pt := if strictPrefix then decodeFixed bs else decodeGo bs
def bipVerifyCur (pk m sig : Bytes) : Bool := if liftXLen then Bip340.verifyFixed pk m sig else Bip340.verifyGo pk m sig
def sigEthereumCur (R : Pt) (s : Nat) : Option Bytes × Option Pt × Nat :=
  if ethReduced then sigEthereumFixed decodeCur R s else sigEthereumGoWith decodeCur R s

end Mps.Sig.Variant
