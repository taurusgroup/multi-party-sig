/-
  M6 — worker pool (pkg/pool/pool.go) as transition systems. Core-only, executable.

  One caller goroutine and W worker goroutines; a state records, for every goroutine, the
  program counter at its next synchronisation point (send/receive on the unbuffered channels
  `commands` and `ctrChanged`, atomic counter operations, result write), plus the shared
  memory (`ctr`, `results`). A step is one such operation; a rendezvous on an unbuffered
  channel is ONE step that moves both parties. The scheduler is the label sequence: every
  interleaving of the real program at these points is a label sequence accepted by `step`.

  Four systems:
    `Pool.Par`, `Pool.Search`              — pool.go before /repo commit 38019e1 (loses workers; see
                                             MpsProps/C18: lost_worker_witness, search_nil_result_witness)
    `Pool.Fixed.Par`, `Pool.Fixed.Search`  — the minimally repaired handshake (hooks/pool_fix.diff; pool.go
                                             from /repo commit 38019e1 on):
                                             one notification per command, sent after the worker's
                                             last write; the caller counts notifications instead of
                                             polling the counter.
  `f` is abstract: for Parallelize a function of the index, for Search an oracle whose answer
  (possibly nil = `none`) is part of the label.
-/
namespace Mps.Pool

/-- results are opaque values; Go's `nil` is `none` -/
abbrev Val := Nat

/-- run a label sequence (a schedule); `none` = some step was not enabled -/
def run {σ L : Type} (step : σ → L → Option σ) : σ → List L → Option σ
  | s, [] => some s
  | s, l :: ls => match step s l with
    | none => none
    | some s' => run step s' ls

/-- weighted count over the worker list (counting abstraction) -/
def wsum {α : Type} (g : α → Nat) : List α → Nat
  | [] => 0
  | a :: l => g a + wsum g l

/-! ## `parallelizeAlone`, `searchAlone` (nil pool: the calling goroutine does the work) -/

/-- `for i := 0; i < len(results); i++ { results[i] = f(i) }` on `results = make(.., count)` -/
def parallelizeAloneLoop (f : Nat → Val) : Nat → Nat → List (Option Val) → List (Option Val)
  | 0, _, res => res
  | k + 1, i, res => parallelizeAloneLoop f k (i + 1) (res.set i (some (f i)))

def parallelizeAlone (f : Nat → Val) (count : Nat) : List (Option Val) :=
  parallelizeAloneLoop f count 0 (List.replicate count none)

/-- `searchAlone`: slot after slot, query the oracle until it answers non-nil. The oracle is
    the stream of its answers; returns `none` when the stream ends before `count` successes
    (the Go loop would keep calling f). -/
def searchAloneLoop : List (Option Val) → Nat → List (Option Val) → Option (List (Option Val))
  | _, 0, acc => some acc.reverse
  | [], _ + 1, _ => none
  | none :: rest, k + 1, acc => searchAloneLoop rest (k + 1) acc
  | some v :: rest, k + 1, acc => searchAloneLoop rest k (some v :: acc)

def searchAlone (answers : List (Option Val)) (count : Nat) : Option (List (Option Val)) :=
  searchAloneLoop answers count []

/-! ## Parallelize — before /repo commit 38019e1

```
worker:   for c := range commands {            -- idle:   receive on `commands`
            c.results[c.i] = c.f(c.i)           -- got i:  evaluate and write the result
            atomic.AddInt64(c.ctr, -1)          -- wrote:  decrement
            c.ctrChanged <- struct{}{} }        -- notify: send (blocks until the caller receives)
caller:   for cmdI < count { select { case p.commands <- cmd: cmdI++ ; case <-ctrChanged: } }   -- top, cmdI < count
          for atomic.LoadInt64(&ctr) > 0 {      -- top, cmdI = count: load
            <-ctrChanged }                      -- recv
          return results                        -- ret
```
-/
namespace Par

inductive W where
  | idle
  | got (i : Nat)
  | wrote
  | notify
  /-- blocked for ever on the `ctrChanged` of a call that has already returned -/
  | stuck
  deriving DecidableEq, Repr

inductive PC where
  | top | recv | ret
  deriving DecidableEq, Repr

structure State where
  cmdI : Nat
  pc : PC
  ctr : Int
  ws : List W
  res : List (Option Val)
  deriving DecidableEq, Repr

inductive Label where
  | cmd (w : Nat)      -- rendezvous on `commands`: caller → worker w
  | write (w : Nat)    -- worker w: results[i] = f(i)
  | dec (w : Nat)      -- worker w: atomic.AddInt64(ctr, -1)
  | notify (w : Nat)   -- rendezvous on `ctrChanged`: worker w → caller
  | load               -- caller: atomic.LoadInt64(&ctr) > 0 ?
  deriving DecidableEq, Repr

/-- a call on a pool whose workers are in states `ws` -/
def init (ws : List W) (n : Nat) : State :=
  { cmdI := 0, pc := .top, ctr := n, ws := ws, res := List.replicate n none }

def step (n : Nat) (f : Nat → Val) (s : State) : Label → Option State
  | .cmd w =>
    if s.pc = .top ∧ s.cmdI < n ∧ s.ws[w]? = some .idle then
      some { s with cmdI := s.cmdI + 1, ws := s.ws.set w (.got s.cmdI) }
    else none
  | .write w =>
    match s.ws[w]? with
    | some (.got i) => some { s with res := s.res.set i (some (f i)), ws := s.ws.set w .wrote }
    | _ => none
  | .dec w =>
    if s.ws[w]? = some .wrote then some { s with ctr := s.ctr - 1, ws := s.ws.set w .notify } else none
  | .notify w =>
    -- the caller receives only inside the select (cmdI < n) or in the wait loop after a positive load
    if s.ws[w]? = some .notify ∧ ((s.pc = .top ∧ s.cmdI < n) ∨ s.pc = .recv) then
      some { s with pc := .top, ws := s.ws.set w .idle }
    else none
  | .load =>
    if s.pc = .top ∧ ¬ s.cmdI < n then
      some { s with pc := if s.ctr > 0 then .recv else .ret }
    else none

/-- what the pool looks like to the NEXT call: a worker still inside the previous call's
    notification send can never be served (the channel belongs to the finished call) -/
def carry (ws : List W) : List W := ws.map fun w => if w = .idle then .idle else .stuck

end Par

/-! ## Search — before /repo commit 38019e1

```
workerSearch: for atomic.LoadInt64(ctr) > 0 {   -- load
                res := f(0)                      -- eval (oracle answer in the label)
                if res == nil { continue }
                i := atomic.AddInt64(ctr, -1)    -- dec v
                if i >= 0 { results[i] = res }   -- write i v
                ctrChanged <- struct{}{} }       -- notify
caller:       for cmdI < p.workerCount { select { case p.commands <- cmd: cmdI++ ; case <-ctrChanged: } }
              for atomic.LoadInt64(&ctr) > 0 { <-ctrChanged }
```
-/
namespace Search

inductive W where
  | idle
  | load
  | eval
  | dec (v : Val)
  | write (i : Int) (v : Val)
  | notify
  deriving DecidableEq, Repr

structure State where
  cmdI : Nat
  pc : Par.PC
  ctr : Int
  ws : List W
  res : List (Option Val)
  deriving DecidableEq, Repr

inductive Label where
  | cmd (w : Nat)
  | load (w : Nat)                    -- worker: atomic.LoadInt64(ctr) > 0 ?
  | eval (w : Nat) (r : Option Val)   -- worker: res := f(0), the oracle answers r
  | dec (w : Nat)
  | write (w : Nat)
  | notify (w : Nat)
  | cload                             -- caller: atomic.LoadInt64(&ctr) > 0 ?
  deriving DecidableEq, Repr

def init (ws : List W) (n : Nat) : State :=
  { cmdI := 0, pc := .top, ctr := n, ws := ws, res := List.replicate n none }

def step (s : State) : Label → Option State
  | .cmd w =>
    if s.pc = .top ∧ s.cmdI < s.ws.length ∧ s.ws[w]? = some .idle then
      some { s with cmdI := s.cmdI + 1, ws := s.ws.set w .load }
    else none
  | .load w =>
    if s.ws[w]? = some .load then some { s with ws := s.ws.set w (if s.ctr > 0 then .eval else .idle) } else none
  | .eval w r =>
    if s.ws[w]? = some .eval then
      some { s with ws := s.ws.set w (match r with | none => .load | some v => .dec v) }
    else none
  | .dec w =>
    match s.ws[w]? with
    | some (.dec v) => some { s with ctr := s.ctr - 1, ws := s.ws.set w (.write (s.ctr - 1) v) }
    | _ => none
  | .write w =>
    match s.ws[w]? with
    | some (.write i v) =>
      some { s with res := if 0 ≤ i then s.res.set i.toNat (some v) else s.res, ws := s.ws.set w .notify }
    | _ => none
  | .notify w =>
    if s.ws[w]? = some .notify ∧ ((s.pc = .top ∧ s.cmdI < s.ws.length) ∨ s.pc = .recv) then
      some { s with pc := .top, ws := s.ws.set w .load }
    else none
  | .cload =>
    if s.pc = .top ∧ ¬ s.cmdI < s.ws.length then
      some { s with pc := if s.ctr > 0 then .recv else .ret }
    else none

end Search

/-! ## The repaired handshake (hooks/pool_fix.diff)

```
worker:   for c := range commands {
            if c.search { workerSearch(c.results, c.f, c.ctr) } else { c.results[c.i] = c.f(c.i) }
            c.ctrChanged <- struct{}{} }         -- exactly one notification per command
Parallelize: cmdI, done := 0, 0
          for cmdI < count { select { case p.commands <- cmd: cmdI++ ; case <-ctrChanged: done++ } }
          for done < count { <-ctrChanged; done++ }
Search:   the same with p.workerCount commands; workerSearch no longer notifies inside its loop.
```
-/
namespace Fixed

namespace Par

inductive W where
  | idle
  | got (i : Nat)
  | notify
  deriving DecidableEq, Repr

structure State where
  cmdI : Nat
  recvd : Nat
  ret : Bool
  ws : List W
  res : List (Option Val)
  deriving DecidableEq, Repr

inductive Label where
  | cmd (w : Nat)
  | write (w : Nat)
  | notify (w : Nat)
  | ret
  deriving DecidableEq, Repr

def init (ws : List W) (n : Nat) : State :=
  { cmdI := 0, recvd := 0, ret := false, ws := ws, res := List.replicate n none }

def step (n : Nat) (f : Nat → Val) (s : State) : Label → Option State
  | .cmd w =>
    if s.ret = false ∧ s.cmdI < n ∧ s.ws[w]? = some .idle then
      some { s with cmdI := s.cmdI + 1, ws := s.ws.set w (.got s.cmdI) }
    else none
  | .write w =>
    match s.ws[w]? with
    | some (.got i) => some { s with res := s.res.set i (some (f i)), ws := s.ws.set w .notify }
    | _ => none
  | .notify w =>
    -- the caller receives inside the select (cmdI < n) or in the wait loop (done < n)
    if s.ret = false ∧ s.ws[w]? = some .notify ∧ (s.cmdI < n ∨ s.recvd < n) then
      some { s with recvd := s.recvd + 1, ws := s.ws.set w .idle }
    else none
  | .ret =>
    if s.ret = false ∧ ¬ s.cmdI < n ∧ ¬ s.recvd < n then some { s with ret := true } else none

/-- steps still to come, per worker state -/
def togo : W → Nat
  | .idle => 0
  | .got _ => 2
  | .notify => 1

def busy : W → Nat
  | .idle => 0
  | _ => 1

/-- ranking function: decreases by exactly one with every step -/
def rank (n : Nat) (s : State) : Nat :=
  (if s.ret then 0 else 1) + 3 * (n - s.cmdI) + wsum togo s.ws

end Par

namespace Search

inductive W where
  | idle
  | load
  | eval
  | dec (v : Val)
  | write (i : Int) (v : Val)
  | done                       -- left the search loop, about to notify
  deriving DecidableEq, Repr

structure State where
  cmdI : Nat
  recvd : Nat
  ret : Bool
  ctr : Int
  ws : List W
  res : List (Option Val)
  deriving DecidableEq, Repr

inductive Label where
  | cmd (w : Nat)
  | load (w : Nat)
  | eval (w : Nat) (r : Option Val)
  | dec (w : Nat)
  | write (w : Nat)
  | notify (w : Nat)
  | ret
  deriving DecidableEq, Repr

def init (ws : List W) (n : Nat) : State :=
  { cmdI := 0, recvd := 0, ret := false, ctr := n, ws := ws, res := List.replicate n none }

def step (s : State) : Label → Option State
  | .cmd w =>
    if s.ret = false ∧ s.cmdI < s.ws.length ∧ s.ws[w]? = some .idle then
      some { s with cmdI := s.cmdI + 1, ws := s.ws.set w .load }
    else none
  | .load w =>
    if s.ws[w]? = some .load then some { s with ws := s.ws.set w (if s.ctr > 0 then .eval else .done) } else none
  | .eval w r =>
    if s.ws[w]? = some .eval then
      some { s with ws := s.ws.set w (match r with | none => .load | some v => .dec v) }
    else none
  | .dec w =>
    match s.ws[w]? with
    | some (.dec v) => some { s with ctr := s.ctr - 1, ws := s.ws.set w (.write (s.ctr - 1) v) }
    | _ => none
  | .write w =>
    match s.ws[w]? with
    | some (.write i v) =>
      some { s with res := if 0 ≤ i then s.res.set i.toNat (some v) else s.res, ws := s.ws.set w .load }
    | _ => none
  | .notify w =>
    if s.ret = false ∧ s.ws[w]? = some .done ∧ (s.cmdI < s.ws.length ∨ s.recvd < s.ws.length) then
      some { s with recvd := s.recvd + 1, ws := s.ws.set w .idle }
    else none
  | .ret =>
    if s.ret = false ∧ ¬ s.cmdI < s.ws.length ∧ ¬ s.recvd < s.ws.length then some { s with ret := true } else none

def busy : W → Nat
  | .idle => 0
  | _ => 1

/-- potential of one worker (depends on the counter: a worker at the loop head still costs a
    whole round only while the counter is positive) -/
def pot (ctr : Int) : W → Nat
  | .idle => 0
  | .done => 1
  | .load => if ctr > 0 then 6 else 2
  | .eval => 5
  | .dec _ => 4
  | .write i _ => if 0 ≤ i then 7 else 3

/-- potential: every step lowers it by at least one, except an oracle answer `nil`, which
    raises it by at most one -/
def rank (s : State) : Nat :=
  (if s.ret then 0 else 1) + 4 * s.ctr.toNat + 7 * (s.ws.length - s.cmdI) + wsum (pot s.ctr) s.ws

/-- number of nil answers of the oracle in a schedule -/
def nils : List Label → Nat
  | [] => 0
  | .eval _ none :: ls => nils ls + 1
  | _ :: ls => nils ls

end Search

end Fixed

end Mps.Pool
