import Mps.Json
import Mps.Handler
import Mps.Session
import Mps.Blake3
/- Driver side of suite `handler`: one model `State` per real handler (keyed by "sid"). -/
namespace Mps.Drv.Handler
open Lean Mps Mps.Handler

def H (b : Bytes) : Bytes := Blake3.hashXof b 64

def optHexJ (b : Option Bytes) : Json := match b with | none => Json.null | some x => toHex x

def parseMsg (j : Json) : Msg :=
  let d := jget j "dec"
  { ssid := jhexOpt j "ssid", frm := jhex j "from", to := jhex j "to", proto := jhex j "proto", rnd := jnat j "rnd",
    data := jhexOpt j "data", bcast := jbool j "bcast", bv := jhexOpt j "bv",
    dec := if d.isNull then none else some ⟨jnat d "v", jnat d "f"⟩ }

def msgJ (m : Msg) : Json :=
  jobj [("ssid", optHexJ m.ssid), ("from", toHex m.frm), ("to", toHex m.to), ("proto", toHex m.proto),
        ("rnd", m.rnd), ("data", optHexJ m.data), ("bcast", m.bcast), ("bv", optHexJ m.bv),
        ("dec", match m.dec with | none => Json.null | some c => jobj [("v", c.v), ("f", c.f)])]

def parseScript (j : Json) : Script :=
  let ids := (jarr j "ids").map fun x => (ofHex (x.getStr?.toOption.getD "")).getD []
  let sidHex := jstr j "sessionID"
  let params : SessionParams :=
    { sid := if sidHex == "" then none else some ((ofHex sidHex).getD []), proto := str (jstr j "proto"),
      group := some (str "secp256k1"), ids := ids, thr := jnat j "threshold", aux := [] }
  { ids := ids, self := jhex j "self", final := jnat j "final",
    rounds := (jarr j "rounds").map fun r => ⟨jnat r "num", jbool r "recvB", jbool r "recvP"⟩,
    proto := str (jstr j "proto"), ssid := ssidWith H params, sess := sessionItems params,
    finErrAt := jnat j "finErrAt" }

def termJ (s : State) : String :=
  match s.result, s.err with
  | some v, _ => s!"result:{v}"
  | none, none => "running"
  | none, some k =>
    let cls := match k with
      | .msgFail _ => "msgFail" | .peerAbort _ => "peerAbort" | .echoMismatch => "echoMismatch"
      | .finalizeErr => "finalizeErr" | .protoAbort _ => "protoAbort" | .stopped => "stopped"
    s!"err:{cls}:" ++ ",".intercalate ((culpritsOf s.sc k).map toHex)

/-- what one call showed: new messages (notices apart), closed-ness, Result() -/
def observe (before after : State) : List (String × Json) :=
  let new := after.out.drop before.out.length
  let emitted := new.filter (·.rnd != 0)
  let notices := (new.filter (·.rnd == 0)).length
  [("out", Json.arr (emitted.map msgJ).toArray), ("closed", decide (after.closes > 0)),
   ("notice", Json.num notices),
   ("term", termJ after)]

/-- in-order run of an all-honest session of the model: every party's messages are delivered to
    every other party, round after round (re-deliveries are no-ops) -/
def simulate (scs : List Script) : List State :=
  let sts := scs.map (init H)
  let pass (sts : List State) : List State :=
    sts.map fun s => sts.foldl (fun acc t => t.out.foldl (fun a m => accept H a m) acc) s
  let rec go (fuel : Nat) (sts : List State) : List State :=
    match fuel with
    | 0 => sts
    | f + 1 => go f (pass sts)
  go ((scs.headD default).rounds.length + 1) sts

/-! ### replay order

  Go's `finalize` replays the queued messages of the round it enters by ranging over a MAP
  (`h.broadcast[number]` / `h.messages[number]`): the order is unspecified. `Mps.Handler.replayQueued`
  fixes id order. When two queued messages from different senders fail in different ways, which failure ends the
  session depends on that order; every order is a behaviour of the code. The `…O` functions below are the model's
  `accept` with the replay order as a parameter (`acceptO … s.sc.ids = accept`: `acceptO_ids` in
  MpsProofs/ReplayOrder.lean); the driver accepts the observed verdict if SOME order
  produces it, and continues from that state. -/

def replayQueuedO (order : List Bytes) (s : State) : State × Option Fail :=
  order.foldl (replayStep (curSpec s) s.cur) (s, none)

def finalizeStepO (H : Bytes → Bytes) (order : List Bytes) (s : State) : Step :=
  let s1 := fillBh H s
  if !receivedAllB H s then .halt s1
  else if !checkBroadcastHash s1 then .halt (abort s1 (some .echoMismatch))
  else match protoFinalize s1 with
    | .error => .halt (abort s1 (some .finalizeErr))
    | .abortRound cs =>
      if s1.reached.contains 0 then .halt s1 else .halt (abort (enter0 s1) (some (.protoAbort cs)))
    | .output v =>
      if s1.reached.contains 0 then .halt s1 else .halt (abort { enter0 s1 with result := some v } none)
    | .round i nx =>
      let s3 := sendAll s1 (emitFor s1 nx)
      if s3.reached.contains nx.num then .halt s3
      else match replayQueuedO order (enter s3 i nx) with
        | (s5, some f) => .halt (abort s5 (some (errOf f)))
        | (s5, none) => .more s5

def finalizeO (H : Bytes → Bytes) (order : List Bytes) : Nat → State → State
  | 0, s => s
  | fuel + 1, s =>
    match finalizeStepO H order s with
    | .halt s' => s'
    | .more s' => finalizeO H order fuel s'

def acceptStoredO (H : Bytes → Bytes) (order : List Bytes) (s1 : State) (m : Msg) : State :=
  if s1.cur != m.rnd then s1
  else match (if m.bcast then verifyBroadcastMessage s1 m else verifyMessage s1 m) with
    | .bad => abort s1 (some (.msgFail m.frm))
    | .echo => abort s1 (some .echoMismatch)
    | .ok s2 => finalizeO H order (s2.sc.rounds.length + 1) s2

def acceptO (H : Bytes → Bytes) (order : List Bytes) (s : State) (m : Msg) : State :=
  if !canAccept s m || terminal s || duplicate s m then s
  else if m.rnd == 0 then abort s (some (.peerAbort m.frm))
  else acceptStoredO H order (store s m) m

def perms : List Bytes → List (List Bytes)
  | [] => [[]]
  | x :: xs => (perms xs).flatMap fun p => (List.range (p.length + 1)).map fun i => p.take i ++ x :: p.drop i

abbrev Store := List (String × State)

def getS (st : Store) (sid : String) : Option State := (st.find? (·.1 == sid)).map (·.2)
def putS (st : Store) (sid : String) (s : State) : Store := (sid, s) :: st.filter (·.1 != sid)

def handle (st : Store) (op : String) (inp : Json) : Store × Json :=
  let sid := jstr inp "sid"
  match op with
  | "init" =>
    let scj := jget inp "script"
    let sc := parseScript scj
    if !newSessionOk sc.ids sc.self (jint scj "threshold") then (st, jobj [("outcome", "err")])
    else
      let s := init H sc
      let s0 : State := { s with out := [] }
      -- a fresh handler keeps only recent sessions in the store
      (putS (st.take 64) sid s, jobj (observe s0 s ++ [("ssid", Json.str (toHex sc.ssid))]))
  | "accept" =>
    match getS st sid with
    | none => (st, jobj [("error", "unknown sid")])
    | some s =>
      let m := parseMsg (jget inp "msg")
      let can := canAccept s m
      let s0 := accept H s m
      -- the observed verdict, when the harness passes it: accepted if some replay order of the code produces it
      let obs := jstr inp "obsTerm"
      let s' :=
        if obs == "" || termJ s0 == obs || s0.err.isNone || s.sc.ids.length > 6 then s0
        else match (perms s.sc.ids).find? fun o => termJ (acceptO H o s m) == obs with
          | some o => acceptO H o s m
          | none => s0
      (putS st sid s', jobj (observe s s' ++ [("can", Json.bool can)]))
  | "stop" =>
    match getS st sid with
    | none => (st, jobj [("error", "unknown sid")])
    | some s =>
      let s' := stop s
      (putS st sid s', jobj (observe s s'))
  | "views" =>
    -- C06 judged on the observation: two honest parties that both completed hold identical views of every
    -- broadcast round that has a successor round (whose messages carry the echo hash)
    let parties := jarr inp "parties"
    let rounds := (jarr inp "rounds").map fun r => (jnat r "num", jbool r "recvB")
    let cheater := jint inp "cheater"
    let final := jnat inp "final"
    let protectedRounds := (rounds.zipIdx.filter fun ((num, b), i) =>
        b && 2 ≤ num && num ≤ final &&
        (match rounds[i + 1]? with | some (n2, _) => n2 == num + 1 && n2 ≤ final | none => false)).map (·.1.1)
    let viewOf (p : Json) (r : Nat) : List (String × String) :=
      match jget p "views" with
      | .obj kvs => (kvs.toList.filter fun kv => kv.1.startsWith s!"{r}|").map fun kv => (kv.1, kv.2.getStr?.toOption.getD "")
      | _ => []
    let completed (p : Json) : Bool := (jstr p "term").startsWith "result:"
    let ok := parties.zipIdx.all fun (p, i) => parties.zipIdx.all fun (q, j) =>
      if (i : Int) == cheater || (j : Int) == cheater || !(completed p && completed q) then true
      else protectedRounds.all fun r =>
        -- same payload from every sender both have heard (a party does not receive its own broadcast)
        (viewOf p r).all fun (k, v) => (viewOf q r).all fun (k', v') => k != k' || v == v'
    (st, jobj [("ok", ok)])
  | "conc" =>
    -- judge an observed concurrent run: expected results come from the in-order run of the model
    let scs := (jarr inp "scripts").map parseScript
    let sts := simulate scs
    let terms := (jarr inp "terms").map fun t => t.getStr?.toOption.getD ""
    let stopper := jint inp "stopper"
    let stopperId := if stopper < 0 then none else (scs.getD stopper.toNat default).ids[stopper.toNat]?
    let okOne (i : Nat) (t : String) : Bool :=
      let exp := termJ (sts.getD i default)
      if t == exp then true
      else match stopperId with
        | none => false
        | some sid =>
          let _ := sid
          if (i : Int) == stopper then t == s!"err:stopped:{toHex sid}"
          else
            -- a peer's abort notice is relayed: whoever forwards it is reported as its origin
            t == "running" ||
            ((scs.getD i default).ids.any fun other => other != (scs.getD i default).self && t == s!"err:peerAbort:{toHex other}")
    (st, jobj [("ok", (terms.zipIdx.all fun (t, i) => okOne i t))])
  | _ => (st, jobj [("error", "unknown op")])

end Mps.Drv.Handler
