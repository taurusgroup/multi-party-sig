import Mps.Handler
/-
  M5b: `protocol.TwoPartyHandler` (pkg/protocol/twoparty.go) as a state machine over a scripted
  two-party protocol: rounds only exchange p2p messages, one message per round and direction at most.
  Transcription of NewTwoPartyHandler / Accept / advance / abort / Stop.
-/
namespace Mps.TwoParty
open Mps Mps.Handler

structure Round2 where
  num   : Nat
  recv  : Bool      -- MessageContent() ≠ nil: the round waits for the peer's message
  send  : Bool      -- Finalize sends one message (for the peer's round with number `sendNum`)
  sendNum : Nat
  deriving DecidableEq, Repr, Inhabited

structure Script2 where
  ids    : List Bytes
  self   : Bytes
  peer   : Bytes
  final  : Nat
  rounds : List Round2
  proto  : Bytes
  ssid   : Bytes
  leader : Bool
  finErrAt : Nat
  deriving Repr, Inhabited

inductive Err2 where
  | msgFail | peerAbort | finalizeErr | protoAbort | stopped
  deriving DecidableEq, Repr, Inhabited

structure State2 where
  sc      : Script2
  idx     : Nat
  cur     : Nat                        -- round.Number() of h.round (0 once Output / Abort)
  ended   : Bool                       -- h.round is an Output / Abort round
  msgs    : List (Nat × Msg)           -- h.messages, last write wins
  err     : Option Err2
  result  : Option Nat
  out     : List Msg
  closes  : Nat
  acc     : Nat
  accuse  : Bool
  deriving Repr, Inhabited

def curRound (s : State2) : Round2 := s.sc.rounds.getD s.idx default

def lookup2 (q : List (Nat × Msg)) (r : Nat) : Option Msg := (q.find? fun e => e.1 == r).map (·.2)

def put2 (q : List (Nat × Msg)) (r : Nat) (m : Msg) : List (Nat × Msg) := (r, m) :: q.filter (fun e => e.1 != r)

def canAccept2 (s : State2) (m : Msg) : Bool :=
  isFor m s.sc.self && m.proto == s.sc.proto && (m.ssid.getD [] == s.sc.ssid) && s.sc.ids.contains m.frm
  && m.data.isSome && !(m.rnd > s.sc.final)

def abort2 (s : State2) (e : Option Err2) : State2 :=
  match e with
  | some k =>
    let notice : Msg := { ssid := some s.sc.ssid, frm := s.sc.self, to := [], proto := s.sc.proto, rnd := 0,
                          data := some [], bcast := false, bv := none, dec := none }
    { s with err := some k, out := s.out ++ [notice], closes := s.closes + 1 }
  | none => { s with closes := s.closes + 1 }

def terminal2 (s : State2) : Bool := s.err.isSome || s.result.isSome

/-- `canAdvance` -/
def canAdvance (s : State2) : Bool :=
  if s.ended then true            -- Output/Abort rounds have MessageContent() == nil (not reached: advance returned)
  else if !(curRound s).recv then true else (lookup2 s.msgs s.cur).isSome

inductive Step2 where
  | halt (s : State2)
  | more (s : State2)

/-- one iteration of the `for h.canAdvance()` loop of `advance` -/
def advanceStep (s : State2) : Step2 :=
  if !canAdvance s then .halt s else
  let r := curRound s
  -- verifyMessage(msg): a nil message (round without input) is fine
  let stored : Option State2 :=
    match lookup2 s.msgs s.cur with
    | none => some s
    | some m =>
      if !r.recv then none          -- MessageContent() == nil: unmarshal into nil fails
      else match m.dec with
        | none => none
        | some c =>
          if hasFlag c.f fFailVerify || hasFlag c.f fFailStore then none
          else some { s with acc := s.acc + c.v, accuse := s.accuse || hasFlag c.f fAccuse }
  match stored with
  | none => .halt (abort2 s (some .msgFail))
  | some s1 =>
    if s1.sc.finErrAt != 0 && s1.sc.finErrAt == s1.cur then .halt (abort2 s1 (some .finalizeErr))
    else if s1.accuse then .halt (abort2 { s1 with ended := true, cur := 0 } (some .protoAbort))
    else match s1.sc.rounds[s1.idx + 1]? with
      | none => .halt (abort2 { s1 with ended := true, cur := 0, result := some s1.acc } none)
      | some nx =>
        let ems : List Msg :=
          if r.send then
            let c : Content := ⟨honestV { ids := s1.sc.ids, self := s1.sc.self, final := 0, rounds := [], proto := [], ssid := [],
                                          sess := [], finErrAt := 0 } s1.sc.self s1.sc.peer r.sendNum, 0⟩
            [{ ssid := some s1.sc.ssid, frm := s1.sc.self, to := s1.sc.peer, proto := s1.sc.proto, rnd := r.sendNum,
               data := some (cborContent c), bcast := false, bv := none, dec := some c }]
          else []
        .more { s1 with out := s1.out ++ ems, idx := s1.idx + 1, cur := nx.num }

def advance : Nat → State2 → State2
  | 0, s => s
  | fuel + 1, s =>
    match advanceStep s with
    | .halt s' => s'
    | .more s' => advance fuel s'

def init2 (sc : Script2) : State2 :=
  let r1 := sc.rounds.getD 0 default
  let s0 : State2 := { sc := sc, idx := 0, cur := r1.num, ended := false, msgs := [], err := none, result := none,
                       out := [], closes := 0, acc := 0, accuse := false }
  if sc.leader then advance (sc.rounds.length + 1) s0 else s0

def accept2 (s : State2) (m : Msg) : State2 :=
  if !canAccept2 s m || terminal2 s then s
  else if m.rnd == 0 then abort2 s (some .peerAbort)
  else advance (s.sc.rounds.length + 1) { s with msgs := put2 s.msgs m.rnd m }

def stop2 (s : State2) : State2 := if terminal2 s then s else abort2 s (some .stopped)

inductive Call2 where
  | accept (m : Msg) | canAccept (m : Msg) | listen | result | stop

def apply2 (s : State2) : Call2 → State2
  | .accept m => accept2 s m
  | .stop => stop2 s
  | _ => s

def run2 (sc : Script2) (calls : List Call2) : State2 := calls.foldl apply2 (init2 sc)

end Mps.TwoParty
