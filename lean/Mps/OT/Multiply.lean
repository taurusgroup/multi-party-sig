import Mps.OT.Extend
/-
  additive.go (AdditiveOTSender.Round1 / AdditiveOTReceiver.Round2) and multiply.go
  (makeGadget, encode, MultiplySender.Round1, MultiplyReceiver.Round2), over `FieldOps`.
-/
namespace Mps.OT

/-! ### additive OT -/

/-- `AdditiveOTSender.Round1` after the extended OT: for every `i < l`
      result[i]   = PRG(V0[i])                       (two scalars)
      combined[i] = PRG(V1[i]) − result[i] + α       (componentwise)
    returns (combined, result). -/
def additiveSend {F : Type} (O : FieldOps F) (h : OTHash F) (V0 V1 : List Nat) (l : Nat) (alpha : F × F) :
    List (F × F) × List (F × F) :=
  let result := (List.range l).map fun i => h.sc2 (V0.getD i 0)
  let combined := (List.range l).map fun i =>
    let r := h.sc2 (V0.getD i 0)
    let c := h.sc2 (V1.getD i 0)
    (O.add (O.sub c.1 r.1) alpha.1, O.add (O.sub c.2 r.2) alpha.2)
  (combined, result)

/-- `AdditiveOTReceiver.Round2`: result[i] = −PRG(VChoice[i]) + (choice_i · combined[i]).
    (The code masks the bytes of the combined pad with `-choice_i` and then unmarshals them:
    all-zero bytes are the zero scalar.) -/
def additiveRecv {F : Type} (O : FieldOps F) (h : OTHash F) (VC : List Nat) (l : Nat) (choices : Nat)
    (combined : List (F × F)) : List (F × F) :=
  (List.range l).map fun i =>
    let p := h.sc2 (VC.getD i 0)
    let m := combined.getD i (O.zero, O.zero)
    let c := bitAt i choices
    (O.add (O.neg p.1) (if c then m.1 else O.zero), O.add (O.neg p.2) (if c then m.2 else O.zero))


/-! ### the masking loops of `AdditiveOTReceiver.Round2`, index by index

additive.go masks the bytes of `CombinedPads[i][k]` (after checking `len(CombinedPads) == batchSize`) with

    for j := 0; j < len(msg.CombinedPads[i][k]); j++ { msg.CombinedPads[i][k][j] &= mask }

The functions below are this loop with Go's index checks (`none` = index out of range, i.e. a panic;
`some n` = the loop ends normally after masking `n` bytes). `lens[p]` is `len(CombinedPads[p][k])`.
The scalar-level `additiveRecv` above is what the loop computes when every index is in range —
which, for this loop, is always (`additive_mask_loop_in_range`). -/
def maskLoopCoded (lens : List Nat) (i : Nat) : Nat → Nat → Option Nat
  | 0, j => some j
  | fuel + 1, j =>
    match lens[i]? with
    | none => none                                   -- msg.CombinedPads[i] with i ≥ len(CombinedPads)
    | some li =>
      if j < li then
        -- body: msg.CombinedPads[i][k][j] with j < len(msg.CombinedPads[i][k]): in range
        maskLoopCoded lens i fuel (j + 1)
      else some j

/-- the loop as it was before fix commit eab5a8f:

        for j := 0; j < len(msg.CombinedPads[j][k]); j++ { msg.CombinedPads[i][k][j] &= mask }

    — the loop BOUND read the length of pad number `j` (the byte counter), not of pad `i`. Kept as the
    witness of the repaired defect (`additive_mask_loop_range_old`). -/
def maskLoopCodedOld (lens : List Nat) (i : Nat) : Nat → Nat → Option Nat
  | 0, j => some j
  | fuel + 1, j =>
    match lens[j]? with
    | none => none                                   -- len(msg.CombinedPads[j][k]) with j ≥ len(CombinedPads)
    | some lj =>
      if j < lj then
        match lens[i]? with
        | none => none                               -- msg.CombinedPads[i]
        | some li => if j < li then maskLoopCodedOld lens i fuel (j + 1) else none   -- …[i][k][j]
      else some j

/-! ### the gadget vector and the encoding of β -/

/-- `group.ScalarBits()` rounded up to a multiple of 8 (the code calls this `scalarBytes`) -/
def scalarBits : Nat := 256
/-- number of noise entries: `8 * ((ScalarBits + 2*StatParam + 7) / 8)` -/
def noiseLen : Nat := 8 * ((256 + 2 * statParam + 7) / 8)
/-- `len(gadget)` -/
def gadgetLen : Nat := scalarBits + noiseLen

/-- `k` doublings of one (`acc.Add(acc)`) -/
def pow2 {F : Type} (O : FieldOps F) : Nat → F
  | 0 => O.one
  | k + 1 => let a := pow2 O k; O.add a a

/-- the exponent stored at index `idx` of the power-of-two part of the gadget:
    `out[(i<<3)|j]` receives the accumulator after `8·(31−i) + j` doublings
    (bytes in big-endian order, bits LSB first inside a byte) -/
def gadgetExp (idx : Nat) : Nat := 8 * (31 - idx / 8) + idx % 8

/-- `makeGadget`: powers of two in the code's order, then the public noise -/
def makeGadget {F : Type} (O : FieldOps F) (h : OTHash F) : List F :=
  ((List.range scalarBits).map fun idx => pow2 O (gadgetExp idx)) ++ h.noise noiseLen

/-- the accumulator of `encode`: β − Σᵢ γᵢ·noise[i] -/
def encodeAcc {F : Type} (O : FieldOps F) (beta : F) (noise : List F) (gamma : Nat) : F :=
  forRange noise.length beta fun acc i => O.sub acc (O.mul (O.ofBit (bitAt i gamma)) (noise.getD i O.zero))

/-- the bits of a marshalled scalar in the order `bitAt` reads them: 32 big-endian bytes, read
    little-endian -/
def scalarChoiceBits (v : Nat) : Nat := leNat (beN 32 v)

/-- `encode(β, noise)` with the sampled bits γ: the choice vector
    `MarshalBinary(β − Σ γᵢ·noise[i]) ‖ γ` as a bit vector -/
def encode {F : Type} (O : FieldOps F) (beta : F) (noise : List F) (gamma : Nat) : Nat :=
  scalarChoiceBits (O.repr (encodeAcc O beta noise gamma)) ||| ((gamma % 2 ^ noise.length) <<< scalarBits)

/-! ### the multiplication -/

/-- `MultiplySendRound1Message` (scalars already unmarshalled) -/
structure MulSendMsg (F : Type) where
  combined : List (F × F)
  rCheck : List F
  uCheck : F

/-- `MultiplySender.Round1` after the additive OT produced `result` (the sender's pads):
      uCheck = α₀χ₀ + α₁χ₁,  rCheck[i] = result[i]₀χ₀ + result[i]₁χ₁,  share = Σ result[i]₀·gadget[i] -/
def mulSendFinish {F : Type} (O : FieldOps F) (chi : F × F) (gadget : List F) (alpha : F × F)
    (result : List (F × F)) : List F × F × F :=
  let uCheck := O.add (O.add O.zero (O.mul alpha.1 chi.1)) (O.mul alpha.2 chi.2)
  let rCheck := result.map fun r => O.add (O.add O.zero (O.mul r.1 chi.1)) (O.mul r.2 chi.2)
  let share := O.dot (result.map (·.1)) gadget
  (rCheck, uCheck, share)

/-- the integrity check of `MultiplyReceiver.Round2` at index `i` -/
def mulCheckAt {F : Type} (O : FieldOps F) (chi : F × F) (choices : Nat) (rCheck : List F) (uCheck : F)
    (i : Nat) (r : F × F) : Bool :=
  let left := O.add (O.mul r.1 chi.1) (O.mul r.2 chi.2)
  let right := O.sub (O.mul (O.ofBit (bitAt i choices)) uCheck) (rCheck.getD i O.zero)
  O.eq left right

/-- `MultiplyReceiver.Round2` after the additive OT produced `result`: the check for every `i`,
    then share = Σ result[i]₀·gadget[i]; `none` = "integrity check failed" -/
def mulRecvFinish {F : Type} (O : FieldOps F) (chi : F × F) (gadget : List F) (choices : Nat)
    (rCheck : List F) (uCheck : F) (result : List (F × F)) : Option F :=
  if (List.range result.length).all fun i => mulCheckAt O chi choices rCheck uCheck i (result.getD i (O.zero, O.zero))
  then some (O.dot (result.map (·.1)) gadget)
  else none

/-! ### both parties, end to end (honest run of one multiplication on a given setup) -/

/-- sender's first round on the receiver's message -/
def mulSenderRound1 {F : Type} (O : FieldOps F) (h : OTHash F) (ss : CorreSendSetup) (alpha : F × F)
    (msg : ExtMsg) : Option (MulSendMsg F × F) :=
  let gadget := makeGadget O h
  match extSend h ss gadget.length msg with
  | none => none
  | some (V0, V1) =>
    let (combined, result) := additiveSend O h V0 V1 gadget.length alpha
    let (rCheck, uCheck, share) := mulSendFinish O (h.mchi msg.U) gadget alpha result
    some ({ combined, rCheck, uCheck }, share)

/-- receiver: the choice vector and the first message -/
def mulReceiverRound1 {F : Type} (O : FieldOps F) (h : OTHash F) (rs : CorreRecvSetup) (beta : F)
    (gamma extra : Nat) : Nat × ExtMsg × List Nat :=
  let gadget := makeGadget O h
  let choices := encode O beta (gadget.drop scalarBits) gamma
  let (msg, VC) := extReceive h rs gadget.length choices extra
  (choices, msg, VC)

/-- receiver's second round (the shape checks on the received message, the additive OT, the
    integrity check; nil message parts are not representable at this level) -/
def mulReceiverRound2 {F : Type} (O : FieldOps F) (h : OTHash F) (choices : Nat) (U : List Nat) (VC : List Nat)
    (m : MulSendMsg F) : Option F :=
  let gadget := makeGadget O h
  -- multiply.go Round2: `len(msg.RCheck) != len(r.gadget)` ⇒ "malformed message"
  if m.rCheck.length ≠ gadget.length then none
  -- additive.go Round2: `len(msg.CombinedPads) != batchSize` ⇒ "incorrect batch size in message"
  else if m.combined.length ≠ gadget.length then none
  else
    let result := additiveRecv O h VC gadget.length choices m.combined
    mulRecvFinish O (h.mchi U) gadget choices m.rCheck m.uCheck result

/-- one honest multiplication: sender input α (and its second, random pad scalar α₁), receiver
    input β with encoding randomness γ and extended-OT extra choices. Returns both shares. -/
def multiplyRun {F : Type} (O : FieldOps F) (h : OTHash F) (ss : CorreSendSetup) (rs : CorreRecvSetup)
    (alpha alpha1 beta : F) (gamma extra : Nat) : Option (F × F) :=
  let (choices, msg, VC) := mulReceiverRound1 O h rs beta gamma extra
  match mulSenderRound1 O h ss (alpha, alpha1) msg with
  | none => none
  | some (m, shareS) =>
    match mulReceiverRound2 O h choices msg.U VC m with
    | none => none
    | some shareR => some (shareS, shareR)

end Mps.OT
