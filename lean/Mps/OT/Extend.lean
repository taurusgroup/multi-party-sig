import Mps.OT.Clmul
import Mps.OT.Random
/-
  correlated.go (CorreOTSend / CorreOTReceive) and extended.go (ExtendedOTSend / ExtendedOTReceive).

  All hash / PRG outputs are abstract (`OTHash`): the theorems hold for ANY functions in their
  place; the correspondence run instantiates them with BLAKE3 (`Mps.OT.Concrete`).
-/
namespace Mps.OT

/-- the hash-derived functions of one protocol context (`ctxHash`) -/
structure OTHash (F : Type) where
  /-- the PRG of the correlated OT: key block ↦ column of `nbits` bits
      (`blake3.NewKeyed(prgKey)`, Write(K), Digest().Read(nbits/8 bytes)) -/
  prg : Nat → Nat → Nat
  /-- the check weights χ₀ … χ_{n-1} of the extended OT, read from the context hash after the
      columns `U` have been written into it -/
  chis : List Nat → Nat → List Nat
  /-- the pad hash of the extended OT: `BLAKE3(be32 i ‖ row)` -/
  pad : Nat → Nat → Nat
  /-- additive OT: the two scalars expanded from a pad block -/
  sc2 : Nat → F × F
  /-- multiply: the `n` public noise scalars of the gadget vector -/
  noise : Nat → List F
  /-- multiply: the two check weights χ₀, χ₁ (context hash after `U` was written) -/
  mchi : List Nat → F × F

/-- `for i := 0; i < n; i++ { st = body(st, i) }` -/
def forRange {α : Type} (n : Nat) (init : α) (body : α → Nat → α) : α :=
  (List.range n).foldl body init

/-! ### correlated OT -/

/-- `CorreOTReceive`: choices `x` (`l` bits). Returns the message columns `U` and the rows of `T`.
      T0[i] = PRG(K_0[i]),  T1[i] = PRG(K_1[i]),  U[i] = T0[i] ⊕ T1[i] ⊕ x,  T = transpose(T0) -/
def correReceive {F : Type} (h : OTHash F) (s : CorreRecvSetup) (l : Nat) (x : Nat) : List Nat × List Nat :=
  let T0 := (List.range otParam).map fun i => h.prg (s.k0.getD i 0) l
  let T1 := (List.range otParam).map fun i => h.prg (s.k1.getD i 0) l
  let U := (List.range otParam).map fun i => T0.getD i 0 ^^^ T1.getD i 0 ^^^ x
  (U, transposeBits l T0)

/-- `CorreOTSend`: Q[i] = PRG(K_Δ[i]) ⊕ (Δ_i · U[i]); returns the rows of Q.
    (The byte-level check `len(msg.U[i]) != batchSizeBytes` is not modelled.) -/
def correSend {F : Type} (h : OTHash F) (s : CorreSendSetup) (l : Nat) (U : List Nat) : List Nat :=
  let Q := (List.range otParam).map fun i =>
    h.prg (s.kDelta.getD i 0) l ^^^ maskBit (bitAt i s.delta) (U.getD i 0)
  transposeBits l Q

/-! ### extended OT (KOS15 Figure 7) -/

def inflate (l : Nat) : Nat := l + otParam + statParam

/-- `ExtendedOTReceiveMessage` -/
structure ExtMsg where
  U : List Nat
  X : Nat
  T : Nat
  deriving Repr, DecidableEq

/-- the inflated choice vector: the `l` real choices followed by the random extra bits -/
def inflatedChoices (l choices extra : Nat) : Nat := choices ||| (extra <<< l)

/-- `ExtendedOTReceive`: message and `_VChoices` -/
def extReceive {F : Type} (h : OTHash F) (s : CorreRecvSetup) (l : Nat) (choices extra : Nat) :
    ExtMsg × List Nat :=
  let l' := inflate l
  let x := inflatedChoices l choices extra
  let (U, T) := correReceive h s l' x
  let chi := h.chis U l'
  let X := forRange l' 0 fun acc i => acc ^^^ maskBit (bitAt i x) (chi.getD i 0)
  let Tt := forRange l' 0 fun acc i => accumulate acc (T.getD i 0) (chi.getD i 0)
  let V := (List.range l).map fun i => h.pad i (T.getD i 0)
  ({ U := U, X := X, T := Tt }, V)

/-- `ExtendedOTSend`: the consistency check, then `(_V0, _V1)`; `none` = "monochrome check failed" -/
def extSend {F : Type} (h : OTHash F) (s : CorreSendSetup) (l : Nat) (msg : ExtMsg) :
    Option (List Nat × List Nat) :=
  let l' := inflate l
  let Q := correSend h s l' msg.U
  let chi := h.chis msg.U l'
  let q := forRange l' 0 fun acc i => accumulate acc (Q.getD i 0) (chi.getD i 0)
  let q := accumulate q msg.X s.delta
  if q ≠ msg.T then none
  else
    let V0 := (List.range l).map fun i => h.pad i (Q.getD i 0)
    let V1 := (List.range l).map fun i => h.pad i (Q.getD i 0 ^^^ s.delta)
    some (V0, V1)

end Mps.OT
