import Mps.Bytes
/-
  M4 (OT stack), bit level.  /repo/internal/ot/bits.go, correlated.go (transposeBits)

  Representation. A Go bit vector `[]byte` / `[params.OTBytes]byte` is modelled by the natural
  number whose binary digits are the bits in the code's own order:

      bitAt(i, data) = (data[i>>3] >> (i & 7)) & 1        ⇝      (leNat data).testBit i

  i.e. `leNat` reads the byte string little-endian (byte 0 is least significant, and inside a byte
  the LSB comes first — exactly the indexing of `bitAt`). XOR of byte strings is `^^^` on `Nat`,
  a conditional mask `-bit & v` is `if bit then v else 0`.  `bitAtBytes` is the byte-level
  transcription; `bitAtBytes_eq` (MpsProofs/OTBits.lean) proves it is `testBit ∘ leNat`.
-/
namespace Mps.OT

def otParam : Nat := 128      -- params.OTParam
def otBytes : Nat := 16       -- params.OTBytes = OTParam / 8
def statParam : Nat := 80     -- params.StatParam

/-- little-endian value of a byte string: bit `i` of the result is `bitAt(i, data)` -/
def leNat : Bytes → Nat
  | [] => 0
  | b :: bs => b.toNat + 256 * leNat bs

/-- `k`-byte little-endian encoding (truncating) -/
def leBytes : Nat → Nat → Bytes
  | 0, _ => []
  | k + 1, n => UInt8.ofNat (n % 256) :: leBytes k (n / 256)

/-- bits.go `bitAt`, transcribed on bytes: `(data[i>>3] >> (i & 0b111)) & 1`
    (an index past the end is a Go panic; the model reads a zero byte there) -/
def bitAtBytes (i : Nat) (data : Bytes) : UInt8 :=
  ((data.getD (i >>> 3) 0) >>> (UInt8.ofNat (i &&& 7))) &&& 1

/-- `bitAt` on the `Nat` representation -/
@[inline] def bitAt (i : Nat) (v : Nat) : Bool := v.testBit i

/-- `mask & v` with `mask = -bit` -/
@[inline] def maskBit (b : Bool) (v : Nat) : Nat := if b then v else 0

/-- correlated.go `transposeBits`, one row: `MT[i][j>>3] |= bitAt(i, M[j]) << (j & 0b111)` for
    `j = 0 .. OTParam-1`; `M` is the list of the `OTParam` columns. -/
def transposeRow (M : List Nat) (i : Nat) : Nat :=
  (List.range otParam).foldl (fun row j => row ||| ((bitAt i (M.getD j 0)).toNat <<< j)) 0

/-- correlated.go `transposeBits(l, M)`: the `l` rows of the bit matrix whose columns are `M` -/
def transposeBits (l : Nat) (M : List Nat) : List Nat :=
  (List.range l).map (transposeRow M)

end Mps.OT
