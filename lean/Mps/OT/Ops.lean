import Mps.Bytes
import Mps.Secp256k1
/-
  "One definition, two instantiations": the OT algorithms are written over plain records of
  operations. They are executed with `natOps`/`secpOps` (scalars mod the group order, the
  secp256k1 model) in the correspondence run and proved about with the lawful records built from
  `[CommRing F] [AddCommGroup G] [Module F G]` in `MpsProofs/OT*.lean`.
-/
namespace Mps.OT

/-- scalar operations (`curve.Scalar`) -/
structure FieldOps (F : Type) where
  zero : F
  one  : F
  add  : F → F → F
  sub  : F → F → F
  neg  : F → F
  mul  : F → F → F
  /-- `Scalar.Equal` -/
  eq   : F → F → Bool
  /-- the canonical representative written by `MarshalBinary` (32 bytes big-endian) -/
  repr : F → Nat
  /-- `SetNat` (reduction modulo the group order) -/
  ofNat : Nat → F

/-- group operations (`curve.Point`) with scalars `F` -/
structure GroupOps (F G : Type) where
  add  : G → G → G
  sub  : G → G → G
  smul : F → G → G
  base : G
  /-- `MarshalBinary` -/
  enc  : G → Bytes
  /-- `UnmarshalBinary` -/
  dec  : Bytes → Option G

/-- scalars modulo `q` as natural numbers `< q` -/
def natOps (q : Nat) : FieldOps Nat where
  zero := 0
  one := 1 % q
  add a b := (a + b) % q
  sub a b := (a + (q - b % q)) % q
  neg a := (q - a % q) % q
  mul a b := (a * b) % q
  eq a b := a == b
  repr a := a
  ofNat a := a % q

/-- the secp256k1 model (`Mps.Secp`), scalars mod `Secp.n` -/
def secpOps : GroupOps Nat Secp.Pt where
  add := Secp.add
  sub P Q := Secp.add P (Secp.neg Q)
  smul k P := Secp.mul k P
  base := Secp.G
  enc := Secp.encode
  dec := Secp.decodeStrict

/-- Σᵢ aᵢ·bᵢ with the record's operations, accumulated left to right onto `acc`
    (the `share.Add(mul.Set(x).Mul(g))` loops) -/
def FieldOps.dotFrom {F : Type} (O : FieldOps F) : F → List F → List F → F
  | acc, a :: as, b :: bs => FieldOps.dotFrom O (O.add acc (O.mul a b)) as bs
  | acc, _, _ => acc

def FieldOps.dot {F : Type} (O : FieldOps F) (as bs : List F) : F := O.dotFrom O.zero as bs

/-- a bit as a scalar (`SetNat(SetUint64(bit))`) -/
def FieldOps.ofBit {F : Type} (O : FieldOps F) (b : Bool) : F := if b then O.one else O.zero

end Mps.OT
