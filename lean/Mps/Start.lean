import Mps.Session
import Mps.Secp256k1
/-
  M7 / C20: the decision logic of every start function, transcribed as total functions from an
  abstract description of the parameters to {ok, err, crash}.

  `startAsCoded c fn p` follows the Go code AS IT IS, guard by guard, in source order; a path on
  which the code dereferences an absent (nil) value before any check has the outcome `crash`.
  The record `Code` says, per group of guards, whether the tree contains them; it is computed from
  the regenerated guard tables (MpsGen.Start, see `Mps.Drv.Start.currentCode`), so the same
  transcription follows the tree when a guard is added. `startSpec` is what the property demands.

  Construction of a handler runs the first round's `Finalize` (NewMultiHandler; NewTwoPartyHandler
  for the leader), so absent values that are first used there belong to the start decision.

  Sources: protocols/cmp/cmp.go, cmp/keygen/keygen.go `Start`, cmp/sign/sign.go `StartSign`,
  cmp/presign/sign.go `StartPresign`/`StartPresignOnline`, cmp/config/config.go `CanSign`,
  `ValidThreshold`, `WriteTo`; protocols/frost/frost.go, frost/keygen/keygen.go
  `StartKeygenCommon`, frost/sign/sign.go `StartSignCommon`; protocols/doerner/doerner.go,
  doerner/keygen/keygen.go `StartKeygen`, doerner/sign/sign.go; internal/round/helper.go
  `NewSession`; pkg/ecdsa/presignature.go `Validate`.
-/
namespace Mps.Start
open Mps

inductive Out where
  | ok | err | crash
  deriving DecidableEq, Repr, Inhabited

/-- a value that may be absent (nil), present but degenerate (zero scalar / identity point /
    half-filled record), or good -/
inductive Tri where
  | absent | bad | good
  deriving DecidableEq, Repr, Inhabited

/-- key material as the start functions see it -/
structure Cfg where
  group  : Bool                          -- the curve can be obtained (cmp: Group; frost: PublicKey; taproot: LiftX succeeds; doerner: Public)
  id     : Bytes
  thr    : Int
  secret : Tri                           -- cmp ECDSA, frost PrivateShare, doerner SecretShare
  aux    : Bool                          -- cmp Paillier+ElGamal secrets, doerner OT setup
  shares : Option (List (Bytes × Tri))   -- cmp Public / frost VerificationShares, by party (none: nil map)
  deriving DecidableEq, Repr, Inhabited

structure Presig where
  r     : Tri
  k     : Tri
  chi   : Tri
  idLen : Nat
  rbar  : Option (List (Bytes × Tri))
  s     : Option (List (Bytes × Tri))
  deriving DecidableEq, Repr, Inhabited

structure Params where
  group  : Bool
  self   : Bytes
  other  : Bytes
  ids    : List Bytes          -- participants / signers as given (a nil slice is the empty list)
  thr    : Int
  msgLen : Nat
  cfg    : Option Cfg
  presig : Option Presig
  deriving DecidableEq, Repr, Inhabited

inductive Fn where
  | cmpKeygen | cmpRefresh | cmpSign | cmpPresign | cmpPresignOnline
  | frostKeygen | frostKeygenTaproot | frostRefresh | frostRefreshTaproot | frostSign | frostSignTaproot
  | doernerKeygen | doernerRefreshReceiver | doernerRefreshSender | doernerSignReceiver | doernerSignSender
  deriving DecidableEq, Repr, Inhabited

/-- which groups of guards the tree contains -/
structure Code where
  groupGuard      : Bool   -- keygen start functions refuse a nil group
  idGuard         : Bool   -- NewSession refuses empty ids and ids whose scalars are zero or collide
  cmpValidate     : Bool   -- cmp start functions validate the config before using it
  frostValidate   : Bool   -- frost start functions validate config, message and signer set
  doernerValidate : Bool   -- doerner start functions validate config and message
  presigNilSafe   : Bool   -- PreSignature.Validate refuses absent fields instead of dereferencing them
  deriving DecidableEq, Repr, Inhabited

def Code.head : Code := ⟨false, false, false, false, false, false⟩
def Code.fixed : Code := ⟨true, true, true, true, true, true⟩

/-- continue with `k` when the step `o` went through; its error or crash otherwise -/
def andThen (o : Out) (k : Out) : Out :=
  match o with
  | .ok => k
  | .err => .err
  | .crash => .crash

/-! ### identifiers -/

def insertId (x : Bytes) : List Bytes → List Bytes
  | [] => [x]
  | y :: ys => if bytesLt y x then y :: insertId x ys else x :: y :: ys

/-- `party.NewIDSlice`: a sorted copy -/
def sortIds (l : List Bytes) : List Bytes := l.foldr insertId []

/-- `party.ID.Scalar`: the bytes as a big-endian number reduced modulo the group order -/
def idScalar (id : Bytes) : Nat := unbe id % Secp.n

def distinctNat : List Nat → Bool
  | [] => true
  | x :: xs => !xs.contains x && distinctNat xs

/-- the id guard of NewSession (`validateIDs`): no empty id, no zero scalar, no two ids with one scalar -/
def scalarsOk (ids : List Bytes) : Bool :=
  ids.all (fun i => i != [] && idScalar i != 0) && distinctNat (ids.map idScalar)

/-- `round.NewSession` on (PartyIDs, SelfID, Threshold) -/
def newSession (c : Code) (ids : List Bytes) (self : Bytes) (thr : Int) : Bool :=
  newSessionOk (sortIds ids) self thr && (!c.idGuard || scalarsOk (sortIds ids))

def keys (l : Option (List (Bytes × Tri))) : List Bytes := (l.getD []).map (·.1)

/-! ### key material -/

/-- `config.ValidThreshold` -/
def validThreshold (t : Int) (n : Nat) : Bool := 0 ≤ t && t ≤ 4294967295 && 0 < n && t ≤ (n : Int) - 1

/-- `Config.CanSign(signers)` on a SORTED signer list -/
def canSign (cf : Cfg) (signers : List Bytes) : Bool :=
  validThreshold cf.thr signers.length && idsValid signers && signers.contains cf.id &&
    signers.all (fun j => (keys cf.shares).contains j)

/-- cmp `Config.WriteTo` inside NewSession: the public records are written in id order; a nil record
    is an error, a record without its ECDSA point is dereferenced -/
def cfgWrite (cf : Cfg) : Out :=
  match (cf.shares.getD []).find? (fun e => e.2 != Tri.good) with
  | none => .ok
  | some (_, .absent) => .err
  | some (_, _) => .crash

/-- the validation every config-taking start function runs first (cmp `Config.Validate`,
    frost `Config.Validate`) -/
def cfgValidB (cf : Cfg) : Bool :=
  cf.group && cf.secret == Tri.good && cf.aux && cf.shares.isSome &&
    (cf.shares.getD []).all (fun e => e.2 == Tri.good) &&
    (keys cf.shares).contains cf.id && cf.id != [] && validThreshold cf.thr (keys cf.shares).length

def dcfgValidB (cf : Cfg) : Bool := cf.group && cf.secret == Tri.good && cf.aux

/-! ### PreSignature.Validate -/

def lookup (l : List (Bytes × Tri)) (id : Bytes) : Option Tri := (l.find? (fun e => e.1 == id)).map (·.2)

/-- the loop over RBar: S[id] present and not the identity, RBar[id] not the identity. A Go map is
    walked in unspecified order; the transcription walks the list (the outcomes agree whenever at most
    one entry is defective, which is all the lattice produces). -/
def presigLoop (nilSafe : Bool) (s : List (Bytes × Tri)) : List (Bytes × Tri) → Out
  | [] => .ok
  | (id, r) :: rest =>
    match lookup s id with
    | none => .err
    | some .absent => if nilSafe then .err else .crash
    | some .bad => .err
    | some .good =>
      match r with
      | .absent => if nilSafe then .err else .crash
      | .bad => .err
      | .good => presigLoop nilSafe s rest

def triCheck (nilSafe : Bool) (t : Tri) (k : Out) : Out :=
  match t with
  | .absent => if nilSafe then .err else .crash
  | .bad => .err
  | .good => k

def presigValidate (nilSafe : Bool) (ps : Presig) : Out :=
  match ps.rbar, ps.s with
  | some rb, some s =>
    if rb.length != s.length then .err else
    andThen (presigLoop nilSafe s rb) <|
      triCheck nilSafe ps.r <|
        if ps.idLen != 32 then .err else
        triCheck nilSafe ps.chi <| triCheck nilSafe ps.k .ok
  | _, _ => if nilSafe then .err else .crash

/-! ### the start functions as coded -/


def cmpLike (c : Code) (cf : Cfg) (signers : List Bytes) : Out :=
  if !newSession c signers cf.id cf.thr then .err else
  andThen (cfgWrite cf) <|
    if !canSign cf (sortIds signers) then .err else
    if !cf.group then .crash else
    if cf.secret == Tri.absent then .crash else .ok

def keygenLike (c : Code) (p : Params) (fixedGroup : Bool) (evalSelfAtStart : Bool) : Out :=
  if c.groupGuard && !fixedGroup && !p.group then .err else
  if !newSession c p.ids p.self p.thr then .err else
  if !fixedGroup && !p.group then .crash else
  -- cmp keygen round 1 (run during construction) evaluates the own polynomial at the own id's scalar:
  -- polynomial.Evaluate panics on the zero scalar ("attempt to leak secret")
  if evalSelfAtStart && idScalar p.self == 0 then .crash else .ok

def startAsCoded (c : Code) (fn : Fn) (p : Params) : Out :=
  match fn with
  | .cmpKeygen => keygenLike c p false true
  | .frostKeygen => keygenLike c p false false
  | .frostKeygenTaproot => keygenLike c p true false
  | .cmpRefresh =>
    match p.cfg with
    | none => if c.cmpValidate then .err else .crash
    | some cf =>
      if c.cmpValidate && !cfgValidB cf then .err else
      if !newSession c (keys cf.shares) cf.id cf.thr then .err else
      andThen (cfgWrite cf) <|
        if !cf.group then .crash else if idScalar cf.id == 0 then .crash else .ok
  | .cmpSign =>
    match p.cfg with
    | none => if c.cmpValidate then .err else .crash
    | some cf =>
      if c.cmpValidate && !cfgValidB cf then .err else
      if p.msgLen == 0 then .err else cmpLike c cf p.ids
  | .cmpPresign =>
    match p.cfg with
    | none => .err
    | some cf =>
      if c.cmpValidate && !cfgValidB cf then .err else cmpLike c cf p.ids
  | .cmpPresignOnline =>
    match p.cfg, p.presig with
    | some cf, some ps =>
      if c.cmpValidate && !cfgValidB cf then .err else
      if p.msgLen == 0 then .err else
      andThen (presigValidate c.presigNilSafe ps) <|
        if !canSign cf (sortIds (keys ps.rbar)) then .err else
        if !newSession c (sortIds (keys ps.rbar)) cf.id cf.thr then .err else
        andThen (cfgWrite cf) <| if !cf.group then .crash else .ok
    | _, _ => .err
  | .frostRefresh =>
    match p.cfg with
    | none => if c.frostValidate then .err else .crash
    | some cf =>
      if c.frostValidate && !(cfgValidB cf && p.ids.all (fun j => (keys cf.shares).contains j)) then .err else
      if !cf.group then .crash else
      if cf.shares.isNone then .crash else
      if !newSession c p.ids cf.id cf.thr then .err else .ok
  | .frostRefreshTaproot =>
    match p.cfg with
    | none => if c.frostValidate then .err else .crash
    | some cf =>
      if c.frostValidate && !(cfgValidB cf && p.ids.all (fun j => (keys cf.shares).contains j)) then .err else
      if !cf.group then .err else
      if !newSession c p.ids cf.id cf.thr then .err else
      if cf.secret == Tri.absent then .crash else .ok
  | .frostSign =>
    match p.cfg with
    | none => if c.frostValidate then .err else .crash
    | some cf =>
      if c.frostValidate && !(cfgValidB cf && p.msgLen != 0 && p.ids.all (fun j => (keys cf.shares).contains j)) then .err else
      if !cf.group then .crash else
      if !newSession c p.ids cf.id cf.thr then .err else
      if cf.shares.isNone then .crash else
      if cf.secret == Tri.absent then .crash else .ok
  | .frostSignTaproot =>
    match p.cfg with
    | none => if c.frostValidate then .err else .crash
    | some cf =>
      if c.frostValidate && !(cfgValidB cf && p.msgLen != 0 && p.ids.all (fun j => (keys cf.shares).contains j)) then .err else
      if !cf.group then .err else
      if !newSession c p.ids cf.id cf.thr then .err else
      if cf.secret == Tri.absent then .crash else .ok
  | .doernerKeygen =>
    if c.groupGuard && !p.group then .err else
    if !p.group then .crash else
    if !newSession c [p.self, p.other] p.self 1 then .err else .ok
  | .doernerRefreshReceiver =>
    match p.cfg with
    | none => if c.doernerValidate then .err else .crash
    | some cf =>
      if c.doernerValidate && !dcfgValidB cf then .err else
      if !cf.group then .crash else
      if !newSession c [p.self, p.other] p.self 1 then .err else
      -- secretShare.ActOnBase(); the receiver leads: round 1 proves knowledge of the share (zero share: nil proof)
      if cf.secret != Tri.good then .crash else .ok
  | .doernerRefreshSender =>
    match p.cfg with
    | none => if c.doernerValidate then .err else .crash
    | some cf =>
      if c.doernerValidate && !dcfgValidB cf then .err else
      if !cf.group then .crash else
      if !newSession c [p.self, p.other] p.self 1 then .err else
      if cf.secret == Tri.absent then .crash else .ok
  | .doernerSignReceiver =>
    match p.cfg with
    | none => if c.doernerValidate then .err else .crash
    | some cf =>
      if c.doernerValidate && !(dcfgValidB cf && p.msgLen != 0) then .err else
      if !cf.group then .crash else
      if !newSession c [p.self, p.other] p.self 1 then .err else
      -- the receiver's first round runs during construction and uses the share and the OT setup
      if cf.secret == Tri.absent || !cf.aux then .crash else .ok
  | .doernerSignSender =>
    match p.cfg with
    | none => if c.doernerValidate then .err else .crash
    | some cf =>
      if c.doernerValidate && !(dcfgValidB cf && p.msgLen != 0) then .err else
      if !cf.group then .crash else
      if !newSession c [p.self, p.other] p.self 1 then .err else .ok

/-! ### what the property demands -/

/-- identifiers of a session: pairwise different, none empty, scalar images non-zero and pairwise different -/
def IdsOk (ids : List Bytes) (self : Bytes) : Prop :=
  ids.Nodup ∧ self ∈ ids ∧ (∀ i ∈ ids, i ≠ [] ∧ idScalar i ≠ 0) ∧ (ids.map idScalar).Nodup

def CfgValid (cf : Cfg) : Prop :=
  cf.group = true ∧ cf.secret = Tri.good ∧ cf.aux = true ∧ cf.shares.isSome = true ∧
    (∀ e ∈ cf.shares.getD [], e.2 = Tri.good) ∧ cf.id ∈ keys cf.shares ∧ cf.id ≠ [] ∧
    0 ≤ cf.thr ∧ cf.thr ≤ 4294967295 ∧ cf.thr < (keys cf.shares).length

def DCfgValid (cf : Cfg) : Prop := cf.group = true ∧ cf.secret = Tri.good ∧ cf.aux = true

def PresigValid (ps : Presig) : Prop :=
  ps.r = Tri.good ∧ ps.k = Tri.good ∧ ps.chi = Tri.good ∧ ps.idLen = 32 ∧
    ∃ rb s, ps.rbar = some rb ∧ ps.s = some s ∧ rb.length = s.length ∧
      ∀ e ∈ rb, e.2 = Tri.good ∧ lookup s e.1 = some Tri.good

/-- a signer set for key material `cf` -/
def SignersOk (cf : Cfg) (signers : List Bytes) : Prop :=
  IdsOk signers cf.id ∧ (∀ j ∈ signers, j ∈ keys cf.shares) ∧ cf.thr < signers.length

def Valid (fn : Fn) (p : Params) : Prop :=
  match fn with
  | .cmpKeygen | .frostKeygen => p.group = true ∧ IdsOk p.ids p.self ∧ 0 ≤ p.thr ∧ p.thr ≤ 4294967295 ∧ p.thr < p.ids.length
  | .frostKeygenTaproot => IdsOk p.ids p.self ∧ 0 ≤ p.thr ∧ p.thr ≤ 4294967295 ∧ p.thr < p.ids.length
  | .cmpRefresh => ∃ cf, p.cfg = some cf ∧ CfgValid cf ∧ IdsOk (keys cf.shares) cf.id
  | .cmpSign | .frostSign | .frostSignTaproot =>
    ∃ cf, p.cfg = some cf ∧ CfgValid cf ∧ SignersOk cf p.ids ∧ 0 < p.msgLen
  | .cmpPresign | .frostRefresh | .frostRefreshTaproot =>
    ∃ cf, p.cfg = some cf ∧ CfgValid cf ∧ SignersOk cf p.ids
  | .cmpPresignOnline =>
    ∃ cf ps, p.cfg = some cf ∧ p.presig = some ps ∧ CfgValid cf ∧ PresigValid ps ∧
      SignersOk cf (keys ps.rbar) ∧ 0 < p.msgLen
  | .doernerKeygen => p.group = true ∧ IdsOk [p.self, p.other] p.self
  | .doernerRefreshReceiver | .doernerRefreshSender =>
    ∃ cf, p.cfg = some cf ∧ DCfgValid cf ∧ IdsOk [p.self, p.other] p.self
  | .doernerSignReceiver | .doernerSignSender =>
    ∃ cf, p.cfg = some cf ∧ DCfgValid cf ∧ IdsOk [p.self, p.other] p.self ∧ 0 < p.msgLen

/-- what an accepted start guarantees on EVERY tree (with or without the guards) -/
def Core (fn : Fn) (p : Params) : Prop :=
  match fn with
  | .cmpKeygen | .frostKeygen | .frostKeygenTaproot =>
    p.ids.Nodup ∧ p.self ∈ p.ids ∧ 0 ≤ p.thr ∧ p.thr ≤ 4294967295 ∧ p.thr < p.ids.length
  | .cmpRefresh =>
    ∃ cf, p.cfg = some cf ∧ (keys cf.shares).Nodup ∧ cf.id ∈ keys cf.shares ∧ 0 ≤ cf.thr ∧ cf.thr < (keys cf.shares).length
  | .cmpSign =>
    ∃ cf, p.cfg = some cf ∧ p.ids.Nodup ∧ cf.id ∈ p.ids ∧ 0 ≤ cf.thr ∧ cf.thr < p.ids.length ∧
      (∀ j ∈ p.ids, j ∈ keys cf.shares) ∧ 0 < p.msgLen
  | .cmpPresign =>
    ∃ cf, p.cfg = some cf ∧ p.ids.Nodup ∧ cf.id ∈ p.ids ∧ 0 ≤ cf.thr ∧ cf.thr < p.ids.length ∧
      (∀ j ∈ p.ids, j ∈ keys cf.shares)
  | .cmpPresignOnline =>
    ∃ cf ps, p.cfg = some cf ∧ p.presig = some ps ∧ cf.id ∈ keys ps.rbar ∧ 0 ≤ cf.thr ∧ cf.thr < (keys ps.rbar).length ∧
      (∀ j ∈ keys ps.rbar, j ∈ keys cf.shares) ∧ 0 < p.msgLen
  | .frostRefresh | .frostRefreshTaproot | .frostSign | .frostSignTaproot =>
    ∃ cf, p.cfg = some cf ∧ p.ids.Nodup ∧ cf.id ∈ p.ids ∧ 0 ≤ cf.thr ∧ cf.thr < p.ids.length
  | .doernerKeygen => p.self ≠ p.other
  | .doernerRefreshReceiver | .doernerRefreshSender | .doernerSignReceiver | .doernerSignSender =>
    ∃ cf, p.cfg = some cf ∧ p.self ≠ p.other

/-- executable form of `IdsOk`; below likewise of `SignersOk`, `PresigValid` and `Valid` (`idsOkB_iff` … `validB_iff` in
    MpsProofs/Start.lean) -/
def idsOkB (ids : List Bytes) (self : Bytes) : Bool :=
  distinctNat (ids.map idScalar) && ids.contains self && ids.all (fun i => i != [] && idScalar i != 0)

def signersOkB (cf : Cfg) (signers : List Bytes) : Bool :=
  idsOkB signers cf.id && signers.all (fun j => (keys cf.shares).contains j) && cf.thr < (signers.length : Int)

def presigValidB (ps : Presig) : Bool :=
  ps.r == Tri.good && ps.k == Tri.good && ps.chi == Tri.good && ps.idLen == 32 &&
    match ps.rbar, ps.s with
    | some rb, some s => rb.length == s.length && rb.all (fun e => e.2 == Tri.good && lookup s e.1 == some Tri.good)
    | _, _ => false

def validB (fn : Fn) (p : Params) : Bool :=
  match fn with
  | .cmpKeygen | .frostKeygen => p.group && idsOkB p.ids p.self && validThreshold p.thr p.ids.length
  | .frostKeygenTaproot => idsOkB p.ids p.self && validThreshold p.thr p.ids.length
  | .cmpRefresh => match p.cfg with
    | some cf => cfgValidB cf && idsOkB (keys cf.shares) cf.id
    | none => false
  | .cmpSign | .frostSign | .frostSignTaproot => match p.cfg with
    | some cf => cfgValidB cf && signersOkB cf p.ids && 0 < p.msgLen
    | none => false
  | .cmpPresign | .frostRefresh | .frostRefreshTaproot => match p.cfg with
    | some cf => cfgValidB cf && signersOkB cf p.ids
    | none => false
  | .cmpPresignOnline => match p.cfg, p.presig with
    | some cf, some ps => cfgValidB cf && presigValidB ps && signersOkB cf (keys ps.rbar) && 0 < p.msgLen
    | _, _ => false
  | .doernerKeygen => p.group && idsOkB [p.self, p.other] p.self
  | .doernerRefreshReceiver | .doernerRefreshSender => match p.cfg with
    | some cf => dcfgValidB cf && idsOkB [p.self, p.other] p.self
    | none => false
  | .doernerSignReceiver | .doernerSignSender => match p.cfg with
    | some cf => dcfgValidB cf && idsOkB [p.self, p.other] p.self && 0 < p.msgLen
    | none => false

/-- the decision the property demands: an error for every parameter set that is not valid -/
def startSpec (fn : Fn) (p : Params) : Out := if validB fn p then .ok else .err

end Mps.Start
