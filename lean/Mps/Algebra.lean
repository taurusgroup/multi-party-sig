import Mps.Secp256k1
import Mps.Sha2
/-
  M2 — sharing and signature ALGEBRA of taurusgroup/multi-party-sig, transcribed function by
  function over a plain record of operations `Ops F G` (no type classes, core-only, executable).

  One definition, two instantiations:
    * `secpOps : Ops Nat Secp.Pt`   — scalars mod the group order by `Nat %`, secp256k1 points:
                                      what `mpsdriver` executes against the Go code (suite `alg`);
    * `Mps.Alg.lawful g` (MpsProofs/Algebra.lean) — any field `F`, any `F`-module `G`, `g : G`: what the theorems
                                      of `MpsProps/C01alg, C01tap, C02alg, C08alg, C14alg, C14tap` are stated over.

  Every definition names the Go function it transcribes; the order of the operations is the order
  of the Go statements (accumulators start where the Go accumulators start and are updated left to
  right), so that the differential is bit-exact and the proofs are about the code's own formulas.
-/
namespace Mps.Alg

/-- scalar operations on `F`, group operations on `G`, the action `F → G → G`, the base point -/
structure Ops (F G : Type) where
  zero : F
  one : F
  add : F → F → F
  sub : F → F → F
  mul : F → F → F
  neg : F → F
  inv : F → F
  gzero : G
  gadd : G → G → G
  gneg : G → G
  smul : F → G → G
  base : G

section generic
variable {F G : Type} (O : Ops F G)

/-- `acc := 0; for v in l { acc.Add(v) }` -/
def sumF (l : List F) : F := l.foldl O.add O.zero
/-- `acc := 1; for v in l { acc.Mul(v) }` -/
def prodF (l : List F) : F := l.foldl O.mul O.one
/-- `acc := identity; for P in l { acc = acc.Add(P) }` -/
def sumG (l : List G) : G := l.foldl O.gadd O.gzero
/-- `P.Sub(Q)` -/
def gsub (P Q : G) : G := O.gadd P (O.gneg Q)
/-- `s.ActOnBase()` -/
def actBase (s : F) : G := O.smul s O.base

/-! ## pkg/math/polynomial/lagrange.go -/

/-- the key set of the Go map `scalars` built from the id list (a repeated id is one key) -/
def mapKeys {ι : Type} [BEq ι] : List ι → List ι
  | [] => []
  | a :: l => if l.contains a then mapKeys l else a :: mapKeys l

/-- `getScalarsAndNumerator`: `numerator = 1; for id in interpolationDomain { numerator.Mul(xᵢ) }`
    — over the LIST (every entry, repeated ids included). -/
def lagNumerator {ι : Type} (dom : List ι) (x : ι → F) : F := prodF O (dom.map x)

/-- `lagrange`: `denominator = 1; for i, xI := range interpolationDomain(map)
      { if i == j { denominator.Mul(xJ); continue }; tmp.Set(xJ).Negate().Add(xI); denominator.Mul(tmp) }` -/
def lagDenominator {ι : Type} [BEq ι] (dom : List ι) (x : ι → F) (j : ι) : F :=
  prodF O ((mapKeys dom).map fun i => if i == j then x j else O.add (O.neg (x j)) (x i))

/-- `lagrange`: `lJ := denominator.Invert(); lJ.Mul(numerator)` -/
def lagrangeCoeff {ι : Type} [BEq ι] (dom : List ι) (x : ι → F) (j : ι) : F :=
  O.mul (O.inv (lagDenominator O dom x j)) (lagNumerator O dom x)

/-- `LagrangeFor(group, interpolationDomain, subset...)` (as an association list) -/
def lagrangeFor {ι : Type} [BEq ι] (dom subset : List ι) (x : ι → F) : List (ι × F) :=
  subset.map fun j => (j, lagrangeCoeff O dom x j)

/-- `Lagrange(group, interpolationDomain)` -/
def lagrange {ι : Type} [BEq ι] (dom : List ι) (x : ι → F) : List (ι × F) := lagrangeFor O dom dom x

/-! ## pkg/math/polynomial/polynomial.go, exponent.go -/

/-- `Polynomial.Evaluate` (Horner): `result = 0; for i = len-1 … 0 { result.Mul(index).Add(coefficients[i]) }`.
    (The Go function panics on index 0; that guard is `evalPolyChecked`.) -/
def evalPoly (cs : List F) (x : F) : F := cs.foldr (fun a acc => O.add (O.mul acc x) a) O.zero

/-- `Polynomial.Evaluate` with its guard `if index.IsZero() { panic }` -/
def evalPolyChecked [BEq F] (cs : List F) (x : F) : Option F :=
  if x == O.zero then none else some (evalPoly O cs x)

/-- `polynomial.Exponent`: `IsConstant` says the constant coefficient is the identity and is NOT stored -/
structure Exponent (G : Type) where
  isConstant : Bool
  coeffs : List G
  deriving Repr

/-- `NewPolynomialExponent` -/
def expOfPoly [BEq F] (cs : List F) : Exponent G :=
  match cs with
  | [] => ⟨false, []⟩      -- Go: index out of range; never constructed (NewPolynomial has ≥ 1 coefficient)
  | c0 :: rest =>
    if c0 == O.zero then ⟨true, rest.map (actBase O)⟩ else ⟨false, (c0 :: rest).map (actBase O)⟩

/-- `Exponent.Evaluate`: `result = identity; for i = len-1 … 0 { result = x.Act(result).Add(coefficients[i]) };
     if IsConstant { result = x.Act(result) }` -/
def evalExp (e : Exponent G) (x : F) : G :=
  let r := e.coeffs.foldr (fun a acc => O.gadd (O.smul x acc) a) O.gzero
  if e.isConstant then O.smul x r else r

/-- `Exponent.evaluateClassic` (used by the library's own test): powers of x -/
def evalExpClassic (e : Exponent G) (x : F) : G :=
  let x0 := if e.isConstant then O.mul O.one x else O.one
  (e.coeffs.foldl (fun (st : F × G) a => (O.mul st.1 x, O.gadd st.2 (O.smul st.1 a))) (x0, O.gzero)).2

/-- `Exponent.Degree` (an `int`: −1 for the empty non-constant representation) -/
def expDegree (e : Exponent G) : Int :=
  if e.isConstant then e.coeffs.length else (e.coeffs.length : Int) - 1

/-- `Exponent.Constant` without its guard `len(p.coefficients) == 0`: `none` for the empty non-constant
    representation, where the Go function returns the identity (`expConstant` is the Go function) -/
def expConstant? (e : Exponent G) : Option G :=
  if e.isConstant then some O.gzero else e.coeffs.head?

def expConstant (e : Exponent G) : G := (expConstant? O e).getD O.gzero

/-- `Exponent.add`: refuses different lengths / different `IsConstant` -/
def addExp (p q : Exponent G) : Option (Exponent G) :=
  if p.coeffs.length ≠ q.coeffs.length then none
  else if p.isConstant ≠ q.isConstant then none
  else some ⟨p.isConstant, List.zipWith O.gadd p.coeffs q.coeffs⟩

/-- the loop of `polynomial.Sum` after the copy of the first summand -/
def sumExpFrom (acc : Exponent G) : List (Exponent G) → Option (Exponent G)
  | [] => some acc
  | q :: qs => match addExp O acc q with
    | none => none
    | some acc' => sumExpFrom acc' qs

/-- `polynomial.Sum` (`polynomials[0]` of an empty slice panics in Go: `none`) -/
def sumExp : List (Exponent G) → Option (Exponent G)
  | [] => none
  | p :: ps => sumExpFrom O p ps

/-! ## Feldman / VSS check (frost keygen round3.StoreMessage, cmp keygen round4.StoreMessage) -/

/-- `share.ActOnBase().Equal(Fⱼ.Evaluate(self.Scalar()))` -/
def feldmanCheck (share : F) (e : Exponent G) (xi : F) : Prop := actBase O share = evalExp O e xi

instance [DecidableEq G] (share : F) (e : Exponent G) (xi : F) : Decidable (feldmanCheck O share e xi) := by
  unfold feldmanCheck; infer_instance

/-- cmp keygen round3.StoreBroadcastMessage: constant rule and degree rule on a received `Fⱼ`
    (`refresh` = our own secret polynomial has constant 0) -/
def cmpPolyChecks (refresh : Bool) (threshold : Nat) (e : Exponent G) : Bool :=
  (refresh == e.isConstant) && (expDegree e == (threshold : Int))

/-- frost keygen round2.StoreBroadcastMessage: on refresh the constant must be the identity
    (the degree rule `Phi_i.Degree() != r.threshold` of the same function is not part of this definition) -/
def frostRefreshConstCheck [BEq G] (e : Exponent G) : Bool := expConstant O e == O.gzero

/-! ## final computations of keygen / refresh -/

/-- own share. cmp keygen round4.Finalize: `s = previous (or 0); for j in PartyIDs { s.Add(ShareReceived[j]) }`;
    frost keygen round3.Finalize: `for l, f_li := range shareFrom { privateShare.Add(f_li) }` -/
def finalShare (prev : F) (received : List F) : F := received.foldl O.add prev

/-- public table entry, cmp keygen round4.Finalize:
    `X = ShamirPublicPolynomial.Evaluate(xⱼ); if previous != nil { X = X.Add(previous[j]) }` -/
def finalPublicCmp (prev : Option G) (sumPoly : Exponent G) (xj : F) : G :=
  match prev with
  | none => evalExp O sumPoly xj
  | some p => O.gadd (evalExp O sumPoly xj) p

/-- public table entry, frost keygen round3.Finalize:
    `verificationShares[k] = v.Add(verificationExponent.Evaluate(xₖ))` (v = identity for a fresh keygen) -/
def finalPublicFrost (prev : G) (sumPoly : Exponent G) (xk : F) : G := O.gadd prev (evalExp O sumPoly xk)

/-- frost keygen round3.Finalize: `for phi in Phi { publicKey = publicKey.Add(phi.Constant()) }` -/
def frostGroupKey (prev : G) (phis : List (Exponent G)) : G :=
  phis.foldl (fun acc e => O.gadd acc (expConstant O e)) prev

/-- interpolation at 0 from the values `v` held by the parties of `l`: `Σ_{j∈l} λⱼ·vⱼ` with the code's
    coefficients (what signing does implicitly: `SecretECDSA = λ·x`, `z = … + λ·s·c`, summed over the signers) -/
def reconstruct {ι : Type} [BEq ι] (l : List ι) (x : ι → F) (v : ι → F) : F :=
  sumF O (l.map fun j => O.mul (lagrangeCoeff O l x j) (v j))

/-- interpolation at 0 "in the exponent": `Σ_{j∈l} λⱼ•Vⱼ` (`StartSign`: `PublicKey = Σ λⱼ.Act(Xⱼ)`) -/
def reconstructG {ι : Type} [BEq ι] (l : List ι) (x : ι → F) (V : ι → G) : G :=
  sumG O (l.map fun j => O.smul (lagrangeCoeff O l x j) (V j))

/-- cmp `Config.PublicPoint`: `sum = identity; l = Lagrange(all ids); for j { sum = sum.Add(l[j].Act(Xⱼ)) }` -/
def cmpPublicPoint {ι : Type} [BEq ι] (ids : List ι) (x : ι → F) (X : ι → G) : G :=
  ids.foldl (fun acc j => O.gadd acc (O.smul (lagrangeCoeff O ids x j) (X j))) O.gzero

/-- the share sent by dealer with coefficients `cs` to the party with scalar `xi`
    (cmp round3: `VSSSecret.Evaluate(j.Scalar())`, frost round2: `f_i.Evaluate(l.Scalar())`) -/
def dealShare (cs : List F) (xi : F) : F := evalPoly O cs xi

/-- party i's share after a keygen/refresh in which the dealers (in this order) used `cs` -/
def dealtShare {ι : Type} (dealers : List ι) (cs : ι → List F) (x : ι → F) (prev : F) (i : ι) : F :=
  finalShare O prev (dealers.map fun j => dealShare O (cs j) (x i))

/-- the public table entry of party i that everybody computes from the broadcast exponent polynomials -/
def dealtPublic {ι : Type} [BEq F] (dealers : List ι) (cs : ι → List F) (x : ι → F) (prev : G) (i : ι) : Option G :=
  (sumExp O (dealers.map fun j => expOfPoly O (cs j))).map fun e => O.gadd (evalExp O e (x i)) prev

/-! ### Doerner (2-party, additive) keygen / refresh: keygen/round2R.go, round2S.go -/

/-- `secretShare.Add(ownRefreshScalar).Sub(peerRefreshScalar)` (both roles; also run on a fresh keygen) -/
def doernerNewShare (share own peer : F) : F := O.sub (O.add share own) peer
/-- `public = publicShare.Add(peerPublicShare)` (fresh keygen only; on refresh `public` is kept) -/
def doernerPublic (mine peer : G) : G := O.gadd mine peer

/-! ## FROST signing: frost/sign/round2.go, round3.go, types.go -/

/-- round2: `RShares[l] = rho[l].Act(E[l]); RShares[l] = RShares[l].Add(D[l])` -/
def frostRShare (D E : G) (rho : F) : G := O.gadd (O.smul rho E) D
/-- round2: `R = identity; for l { R = R.Add(RShares[l]) }` -/
def frostR (rshares : List G) : G := sumG O rshares
/-- round2: `z = λ.Mul(s).Mul(c); z.Add(d); ed = ρ.Mul(e); z.Add(ed)` -/
def frostResponse (d e rho lam s c : F) : F := O.add (O.add (O.mul (O.mul lam s) c) d) (O.mul rho e)
/-- round3.StoreBroadcastMessage: `expected = c.Act(λ.Act(Y_from)).Add(RShares[from]); actual = z.ActOnBase()` -/
def frostShareCheck (z c lam : F) (Yi Ri : G) : Prop := actBase O z = O.gadd (O.smul c (O.smul lam Yi)) Ri
/-- round3.Finalize: `z = 0; for z_l { z.Add(z_l) }` -/
def frostAssemble (zs : List F) : F := sumF O zs
/-- `Signature.Verify`: `expected = c.Act(Y).Add(R); actual = z.ActOnBase(); expected.Equal(actual)` -/
def schnorrVerify (Y R : G) (z c : F) : Prop := O.gadd (O.smul c Y) R = actBase O z

instance [DecidableEq G] (z c lam : F) (Yi Ri : G) : Decidable (frostShareCheck O z c lam Yi Ri) := by
  unfold frostShareCheck; infer_instance
instance [DecidableEq G] (Y R : G) (z c : F) : Decidable (schnorrVerify O Y R z c) := by
  unfold schnorrVerify; infer_instance

/-! ## CMP signing and presigning: cmp/sign/sign.go, round3..5.go; cmp/presign/*; pkg/ecdsa -/

/-- `StartSign`/`StartPresign`: `SecretECDSA = λ[self].Mul(config.ECDSA)` -/
def cmpScaleSecret (lam x : F) : F := O.mul lam x
/-- `ECDSA[j] = λ[j].Act(public.ECDSA)` -/
def cmpScalePublic (lam : F) (X : G) : G := O.smul lam X
/-- `PublicKey = identity; for j { PublicKey = PublicKey.Add(ECDSA[j]) }` -/
def cmpSignPublicKey (scaled : List G) : G := sumG O scaled

/-- sign round3 / presign3: `δ = γ·k; for j≠i { δ += α_ij; δ += β_ij }` (the Go code accumulates in ℤ and
    reduces at the end; reduction is a ring homomorphism, so the model accumulates in `F`). The same
    function with `γ := x` gives `χ`. -/
def cmpMtaShare (a k : F) (alphaBeta : List (F × F)) : F :=
  alphaBeta.foldl (fun acc ab => O.add (O.add acc ab.1) ab.2) (O.mul a k)

/-- `Helper.OtherPartyIDs()`: the signer list without self (same order) -/
def othersOf {ι : Type} [BEq ι] (l : List ι) (i : ι) : List ι := l.filter fun j => !(j == i)

/-- party i's δ (with `a := γ`) or χ (with `a := x`) share in a session of the signers `l`:
    `α i j` is what i decrypted from j's `D`, `β i j` is i's own β of its MtA towards j -/
def cmpShareOf {ι : Type} [BEq ι] (l : List ι) (a k : ι → F) (α β : ι → ι → F) (i : ι) : F :=
  cmpMtaShare O (a i) (k i) ((othersOf l i).map fun j => (α i j, β i j))

/-- `Γ = Σ Γⱼ` -/
def cmpGamma (gs : List G) : G := sumG O gs
/-- `Δᵢ = kᵢ.Act(Γ)` -/
def cmpBigDeltaShare (k : F) (Gamma : G) : G := O.smul k Gamma
/-- round4.Finalize / presign6: `δ.ActOnBase().Equal(Σ Δⱼ)` -/
def cmpDeltaCheck (delta : F) (bigDeltas : List G) : Prop := actBase O delta = sumG O bigDeltas
/-- `R = δ⁻¹.Act(Γ)` -/
def cmpR (delta : F) (Gamma : G) : G := O.smul (O.inv delta) Gamma
/-- sign round4: `km = m.Mul(k); σ = r.Mul(χ).Add(km)` -/
def cmpSigmaShare (r chi m k : F) : F := O.add (O.mul r chi) (O.mul m k)
/-- `PreSignature.SignatureShare`: `mk = m.Mul(k); rx = r.Mul(χ); σ = mk.Add(rx)` -/
def presigSigmaShare (m k r chi : F) : F := O.add (O.mul m k) (O.mul r chi)
/-- `PreSignature.Signature` / sign round5: `s = 0; for σ { s.Add(σ) }` -/
def ecdsaAssemble (sigmas : List F) : F := sumF O sigmas
/-- presign6: `S = χ.Act(R)`, `RBar[j] = δ⁻¹.Act(Δⱼ)` -/
def presignS (chi : F) (R : G) : G := O.smul chi R
def presignRBar (delta : F) (bigDelta : G) : G := O.smul (O.inv delta) bigDelta
/-- presign7.Finalize: `PublicKey.Equal(Σ Sⱼ)` -/
def presignKeyCheck (X : G) (ss : List G) : Prop := X = sumG O ss
/-- `PreSignature.VerifySignatureShares`: `σ.Act(R) = m.Act(R̄ⱼ).Add(r.Act(Sⱼ))` -/
def presigShareCheck (sigma m r : F) (R Rj Sj : G) : Prop := O.smul sigma R = O.gadd (O.smul m Rj) (O.smul r Sj)

instance [DecidableEq G] (sigma m r : F) (R Rj Sj : G) : Decidable (presigShareCheck O sigma m r R Rj Sj) := by
  unfold presigShareCheck; infer_instance
instance [DecidableEq G] (X : G) (ss : List G) : Decidable (presignKeyCheck O X ss) := by
  unfold presignKeyCheck; infer_instance
instance [DecidableEq G] (delta : F) (bs : List G) : Decidable (cmpDeltaCheck O delta bs) := by
  unfold cmpDeltaCheck; infer_instance

/-- the equation of `ecdsa.Signature.Verify` (the two guards `r ≠ 0`, `s ≠ 0` are separate, see `ecdsaVerify`):
    `sInv.Act(m.ActOnBase().Add(r.Act(X))).Equal(R)` -/
def ecdsaEq (X R : G) (m r s : F) : Prop := O.smul (O.inv s) (O.gadd (actBase O m) (O.smul r X)) = R

/-- `ecdsa.Signature.Verify` with `r = R.XScalar()` supplied by the caller -/
def ecdsaVerify [DecidableEq F] [DecidableEq G] (X R : G) (m r s : F) : Bool :=
  if r = O.zero ∨ s = O.zero then false else decide (O.smul (O.inv s) (O.gadd (actBase O m) (O.smul r X)) = R)

/-! ## Doerner signing: doerner/sign/round1R.go, round1S.go, round2R.go
    A = sender ("Alice"), B = receiver ("Bob"); `t*` are the outputs of the three OT multiplications:
    `tA1 + tB1 = α₀·kB⁻¹`, `tA21 + tB21 = α₁·kB⁻¹`, `tA22 + tB22 = α₂·β`. -/

def doeKBInv (kB : F) : F := O.inv kB                          -- round1R: kB.Invert()
def doeD (kB : F) : G := actBase O kB                           -- round1R: D = kB.ActOnBase() (before inversion)
def doeBeta (skB kBInv : F) : F := O.mul skB kBInv              -- round1R: beta = SecretShare.Mul(kB⁻¹)
def doeR (kA : F) (D : G) : G := O.smul kA D                    -- round1S: R = kA.Act(D)
def doeAlpha1 (skA kA : F) : F := O.mul skA (O.inv kA)          -- round1S
def doeAlpha2 (kA : F) : F := O.inv kA
def doeAlpha0 (kA phi : F) : F := O.add (O.inv kA) phi
def doeTA2 (tA21 tA22 : F) : F := O.add tA21 tA22
/-- round1S: `Gamma1 = G.Add(phi.Act(kA.ActOnBase())).Sub(tA1.Act(R))` -/
def doeGamma1A (phi kA tA1 : F) (R : G) : G :=
  gsub O (O.gadd O.base (O.smul phi (actBase O kA))) (O.smul tA1 R)
def doeMuPhi (h1 phi : F) : F := O.add h1 phi                   -- muPhi = HGamma1.Add(phi)
/-- round1S: `sigA = m.Mul(tA1).Add(r.Mul(tA2))` -/
def doeSigA (m tA1 r tA2 : F) : F := O.add (O.mul m tA1) (O.mul r tA2)
/-- round1S: `Gamma2 = tA1.Act(Public).Sub(tA2.ActOnBase())` -/
def doeGamma2A (tA1 tA2 : F) (X : G) : G := gsub O (O.smul tA1 X) (actBase O tA2)
def doeMuSig (h2 sigA : F) : F := O.add h2 sigA                 -- muSig = HGamma2.Add(sigA)
/-- round2R: `Gamma1 = tB1.Act(R)` -/
def doeGamma1B (tB1 : F) (R : G) : G := O.smul tB1 R
def doePhiB (h1 muPhi : F) : F := O.add (O.neg h1) muPhi        -- phi = HGamma1.Negate().Add(MuPhi)
/-- round2R: `theta = phi.Mul(kBInv).Negate().Add(tB1)` -/
def doeTheta (phi kBInv tB1 : F) : F := O.add (O.neg (O.mul phi kBInv)) tB1
/-- round2R: `sigB = m.Mul(theta).Add(r.Mul(tB2))` -/
def doeSigB (m theta r tB2 : F) : F := O.add (O.mul m theta) (O.mul r tB2)
/-- round2R: `Gamma2 = tB2.ActOnBase().Sub(theta.Act(Public))` -/
def doeGamma2B (tB2 theta : F) (X : G) : G := gsub O (actBase O tB2) (O.smul theta X)
/-- round2R: `sigAB = sigB.Add(MuSig).Sub(HGamma2)` -/
def doeSigAB (sigB muSig h2 : F) : F := O.sub (O.add sigB muSig) h2

/-! ## BIP-340 parity renormalisation: frost/keygen/round3.go (`if !YSecp.HasEvenY() { privateShare.Negate();
    verificationShares[i] = y_i.Negate() }`) and frost/sign/round2.go (`if !RSecp.HasEvenY() { d_i.Negate();
    e_i.Negate(); RShares[l] = RShares[l].Negate() }`). `even` is the value of `HasEvenY()` on the raw point. -/

/-- the conditional `s.Negate()` on a scalar -/
def tapScalar (even : Bool) (s : F) : F := if even then s else O.neg s
/-- the conditional `P.Negate()` on a point -/
def tapPoint (even : Bool) (P : G) : G := if even then P else O.gneg P

/-! ## Derivation: cmp/config Derive, frost/keygen Config.Derive, doerner/keygen Derive -/

/-- `share.Set(old).Add(adjust)` -/
def deriveShare (s a : F) : F := O.add s a
/-- `P.Add(adjust.ActOnBase())` (every public table entry and the group key) -/
def derivePublic (P : G) (a : F) : G := O.gadd P (actBase O a)
/-- `TaprootConfig.Derive` (frost/keygen/config.go): the share gets the tweak; it is negated when the NEW key
    `LiftX(PublicKey).Add(adjustG)` has odd y (`even` is the value of its `HasEvenY()`) -/
def tapDeriveShare (even : Bool) (s a : F) : F := tapScalar O even (deriveShare O s a)
/-- the same for every verification share (and, up to the x-only export, for the key itself) -/
def tapDerivePublic (even : Bool) (P : G) (a : F) : G := tapPoint O even (derivePublic O P a)
/-- a derivation path: the tweaks are applied one after the other -/
def deriveSharePath (s : F) (path : List F) : F := path.foldl (deriveShare O) s
def derivePublicPath (P : G) (path : List F) : G := path.foldl (derivePublic O) P

/-- the state of one side of a doerner key: additive share, public key, chain key (`none` = absent) -/
structure DoernerCfg (F G : Type) where
  secretShare : F
  pub : G
  chainKey : Option (List UInt8)

/-- doerner `ConfigReceiver.Derive` (as of commit 4df2a70): the RECEIVER adds the tweak,
    `SecretShare.Add(adjust)`, `Public.Add(adjust·G)`, `ChainKey: newChainKey`.
    (`newChainKey` is the value after the preamble `deriveChainRule`.) -/
def doernerDeriveReceiver (c : DoernerCfg F G) (a : F) (newChainKey : List UInt8) : DoernerCfg F G :=
  { secretShare := O.add c.secretShare a, pub := O.gadd c.pub (actBase O a), chainKey := some newChainKey }

/-- doerner `ConfigSender.Derive` (as of commit 4df2a70): the SENDER keeps its share
    (`NewScalar().Set(c.SecretShare)`), `Public.Add(adjust·G)`, `ChainKey: newChainKey`. -/
def doernerDeriveSender (c : DoernerCfg F G) (a : F) (newChainKey : List UInt8) : DoernerCfg F G :=
  { secretShare := c.secretShare, pub := O.gadd c.pub (actBase O a), chainKey := some newChainKey }

/-- a derivation path applied to both halves of one key: each step is (tweak, chain key of the step) -/
def doernerDerivePath (cR cS : DoernerCfg F G) (path : List (F × List UInt8)) : DoernerCfg F G × DoernerCfg F G :=
  path.foldl (fun st step => (doernerDeriveReceiver O st.1 step.1 step.2, doernerDeriveSender O st.2 step.1 step.2)) (cR, cS)

/-- OLD behaviour (before 4df2a70), kept for the witness lemmas: what `ConfigReceiver.Derive` AND
    `ConfigSender.Derive` BOTH did: `SecretShare.Add(adjust)`, `Public.Add(adjust·G)`; the chain key was
    not copied into the result (`none`). -/
def doernerDeriveOld (c : DoernerCfg F G) (a : F) (_newChainKey : List UInt8) : DoernerCfg F G :=
  { secretShare := O.add c.secretShare a, pub := O.gadd c.pub (actBase O a), chainKey := none }

end generic

/-! ## The concrete instance executed by `mpsdriver` -/

open Mps.Secp in
/-- scalars are canonical residues `< n`; every operation reduces its result -/
def secpOps : Ops Nat Secp.Pt where
  zero := 0
  one := 1
  add a b := (a + b) % n
  sub a b := (a + (n - b % n)) % n
  mul a b := (a * b) % n
  neg a := (n - a % n) % n
  inv a := modInv a n            -- 0 ↦ 0, as `big.Int.ModInverse` leaves its receiver when there is no inverse
  gzero := .inf
  gadd := Secp.add
  gneg := Secp.neg
  smul k P := Secp.mul (k % n) P
  base := Secp.G

/-- `party.ID.Scalar`: `SetNat(new(saferith.Nat).SetBytes([]byte(id)))` = big-endian value of the id bytes mod n -/
def idScalar (id : Bytes) : Nat := unbe id % Secp.n

/-- `curve.FromHash` for secp256k1 (orderBits = 256, orderBytes = 32): the leftmost ≤ 32 bytes, as a
    big-endian number, reduced mod n (`excess = len·8 − 256 ≤ 0` after truncation: never shifted) -/
def fromHash (h : Bytes) : Nat := unbe (h.take 32) % Secp.n

/-- `Point.XScalar` for secp256k1: x coordinate mod n (identity ↦ 0) -/
def xScalar : Secp.Pt → Nat
  | .inf => 0
  | .aff x _ => x % Secp.n

/-! ## chain keys -/

/-- `RID.XOR`: `for b < 32 { rid[b] ^= other[b] }` (both validated to be 32 bytes long) -/
def ridXor (a b : Bytes) : Bytes := List.zipWith (fun x y => x ^^^ y) a b

/-- keygen (cmp round3 / frost round3 `Finalize`): `ChainKey := EmptyRID(); for j in PartyIDs { ChainKey.XOR(ChainKeys[j]) }`
    (cmp: only when `PreviousChainKey` is nil; a cmp refresh keeps the previous chain key) -/
def chainKeyOf (contribs : List Bytes) : Bytes := contribs.foldl ridXor (List.replicate 32 0)

/-- the chain key a FROST keygen result carries: since commit eba3819 the XOR of the contributions … -/
def frostResultChainKey (contribs : List Bytes) : Option Bytes := some (chainKeyOf contribs)
/-- … OLD behaviour (before eba3819): computed into a local variable and left out of the Config literal -/
def frostResultChainKeyOld (_contribs : List Bytes) : Option Bytes := none

/-- preamble of every `Derive(adjust, newChainKey)` (cmp, frost, doerner):
    `if len(newChainKey) <= 0 { newChainKey = c.ChainKey }; if len(newChainKey) != 32 { error }`
    (`none` arguments are nil slices; result `none` = the error) -/
def deriveChainRule (old new : Option Bytes) : Option Bytes :=
  let nc := match new with
    | some b => if b.length = 0 then old.getD [] else b
    | none => old.getD []
  if nc.length ≠ 32 then none else some nc

/-- `Secp256k1Point.MarshalBinary`: `out[0] = Y.IsOddBit() + 2; out[1:] = X` after `ToAffine` — the
    identity comes out as 02‖0³² (there is no error path) -/
def goMarshalPoint : Secp.Pt → Bytes
  | .inf => 0x02 :: List.replicate 32 0
  | P => Secp.encode P

/-! ## internal/bip32/bip32.go -/

inductive Bip32Result
  | hardened                                  -- Go: panic("DeriveScalar doesn't work with hardened keys.")
  | badIndex                                  -- Go: error "bad index"
  | ok (scalar : Nat) (chain : Bytes)
  deriving Repr, DecidableEq

/-- `bip32.DeriveScalar(public, chaining, i)`:
    `I = HMAC-SHA512(key = chaining, compressed(public) ‖ be32(i))`; `I_L` must be `< n` (the
    `SetBytes` overflow flag) and `≠ 0`; returns `(I_L, I_R)`. -/
def bip32DeriveScalar (pub : Secp.Pt) (chaining : Bytes) (i : Nat) : Bip32Result :=
  if i / 2^31 ≠ 0 then .hardened else
  let out := Sha2.hmacSha512 chaining (goMarshalPoint pub ++ be32 i)
  let il := unbe (out.take 32)
  if il ≥ Secp.n ∨ il = 0 then .badIndex else .ok il (out.drop 32)

/-- BIP-32 CKDpub written from the standard: `I = HMAC-SHA512(c_par, ser_P(K_par) ‖ ser32(i))`;
    `K_i = parse256(I_L)·G + K_par`; `c_i = I_R`; invalid if `parse256(I_L) ≥ n` or `K_i` is the point
    at infinity; hardened indices are refused. -/
def ckdPub (K : Secp.Pt) (c : Bytes) (i : Nat) : Option (Secp.Pt × Bytes) :=
  if i ≥ 2^31 then none else
  let I := Sha2.hmacSha512 c (Secp.encode K ++ be32 i)
  let il := unbe (I.take 32)
  if il ≥ Secp.n then none else
  let Ki := Secp.add (Secp.mul il Secp.G) K
  if Ki = .inf then none else some (Ki, I.drop 32)

end Mps.Alg
