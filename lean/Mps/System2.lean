import Mps.TwoParty
/-
  A session of the TWO handlers of a two-party protocol (`Mps.TwoParty`): the leader (`NewTwoPartyHandler(…, true)`,
  which runs `advance` in its constructor) and the follower (`NewTwoPartyHandler(…, false)`, which does not move
  until its first `Accept`). The global state is the pair of handler states, a step delivers one message to one of
  the two parties, a schedule is a list of such deliveries. A schedule is *causal* when every delivered message
  is, at the time of its delivery, in the `out` list of the OTHER party's handler: messages are delivered only
  after they were emitted — in any order, any number of times, interleaved arbitrarily, after any delay (this
  handler has neither a stale filter nor a duplicate filter). Nothing else is assumed about the network.
  Core-only.
-/
namespace Mps.System2
open Mps Mps.Handler Mps.TwoParty

/-- the two parties of a session: `L` was built with `leader = true`, `F` with `leader = false` -/
inductive Side where
  | L | F
  deriving DecidableEq, Repr, Inhabited

def Side.other : Side → Side
  | .L => .F
  | .F => .L

/-- global state of a session: the two handlers -/
structure Sys2 where
  l : State2
  f : State2
  deriving Repr, Inhabited

def Sys2.get (σ : Sys2) : Side → State2
  | .L => σ.l
  | .F => σ.f

def scriptOf (scL scF : Script2) : Side → Script2
  | .L => scL
  | .F => scF

/-- both parties have built their handler (`NewTwoPartyHandler`): the leader has already run `advance` -/
def Sys2.init (scL scF : Script2) : Sys2 := ⟨init2 scL, init2 scF⟩

/-- party `p` accepts `m` -/
def Sys2.deliver (σ : Sys2) (p : Side) (m : Msg) : Sys2 :=
  match p with
  | .L => { σ with l := accept2 σ.l m }
  | .F => { σ with f := accept2 σ.f m }

/-- a schedule: (recipient, message) pairs in the order of delivery -/
abbrev Sched2 := List (Side × Msg)

def Sys2.runFrom (σ : Sys2) (sched : Sched2) : Sys2 := sched.foldl (fun τ e => τ.deliver e.1 e.2) σ

/-- the session after the deliveries of `sched` -/
def Sys2.run (scL scF : Script2) (sched : Sched2) : Sys2 := (Sys2.init scL scF).runFrom sched

/-- the delivery of `m` to `p` is possible in `σ`: the other party's handler has emitted `m` -/
def Sys2.canDeliver (σ : Sys2) (p : Side) (m : Msg) : Bool := (σ.get p.other).out.contains m

def causalFrom2 (σ : Sys2) : Sched2 → Bool
  | [] => true
  | e :: rest => σ.canDeliver e.1 e.2 && causalFrom2 (σ.deliver e.1 e.2) rest

/-- every delivery of the schedule is possible at the time it happens -/
def Causal2 (scL scF : Script2) (sched : Sched2) : Bool := causalFrom2 (Sys2.init scL scF) sched

/-- the messages delivered to `p`, in order -/
def delivered2 (sched : Sched2) (p : Side) : List Msg := (sched.filter fun e => e.1 == p).map (·.2)

/-- fair to the end: whatever a party has emitted has been delivered to the other one -/
def Complete2 (σ : Sys2) (sched : Sched2) : Bool :=
  (σ.f.out.all fun m => (delivered2 sched .L).contains m) && (σ.l.out.all fun m => (delivered2 sched .F).contains m)

/-! ### closed forms -/

/-- the scripted content value (`honestV` of the harness; it only looks at the id list) -/
def hv2 (ids : List Bytes) (frm to : Bytes) (n : Nat) : Nat :=
  honestV { ids := ids, self := frm, final := 0, rounds := [], proto := [], ssid := [], sess := [], finErrAt := 0 } frm to n

/-- the message the party running `sc` emits for the peer's round number `n` (what `advanceStep` builds) -/
def msgOf (sc : Script2) (n : Nat) : Msg :=
  let c : Content := ⟨hv2 sc.ids sc.self sc.peer n, 0⟩
  { ssid := some sc.ssid, frm := sc.self, to := sc.peer, proto := sc.proto, rnd := n,
    data := some (cborContent c), bcast := false, bv := none, dec := some c }

/-- the messages the rounds `rs` of `sc` send when they are finalized, in order -/
def sends (sc : Script2) (rs : List Round2) : List Msg := (rs.filter (·.send)).map fun r => msgOf sc r.sendNum

/-- everything the party running `sc` ever emits, in order: the LAST round of a script only returns the result
    (`Finalize` of the harness's `tRound` returns `ResultRound` before it looks at `Send`), so its `send` flag
    is irrelevant -/
def idealOut2 (sc : Script2) : List Msg := sends sc sc.rounds.dropLast

/-- the result of the party running `sc`: the sum of the scripted values of the messages its rounds consume -/
def sessionValue2 (sc : Script2) : Nat :=
  ((sc.rounds.filter (·.recv)).map fun sp => hv2 sc.ids sc.peer sc.self sp.num).sum

/-! ### the side conditions -/

/-- Two scripts that talk to each other (needed for (a), (b), (c)). Every field except `leaderF` is used by a proof; the non-obvious ones
    have kernel-evaluated counterexamples in MpsProps/C07TwoPartySystem.lean (`Cex`).
    Two kinds of conditions: those whose violation makes a handler ABORT on the peer's scripted message
    (`numsL/F`, `1 ≤ sendNum`, the target round expects input, `noFinErrL/F`: counterexamples for (b) and (c)), and
    those whose violation makes `CanAccept` REFUSE it (ids, self / peer, protocol id, ssid, `sendNum ≤ final`): a refused
    message changes nothing, so (b) would survive, but then the emitted messages are not an `Honest2` set (which by
    definition consists of acceptable messages), the parties do not talk to each other, and (d) fails. Likewise a
    message whose number belongs to NO round of the peer would only sit in its store; `Honest2` asks for a round
    that expects it, and so does `sendsL/F`. -/
structure Session2Ok (scL scF : Script2) : Prop where
  /-- the session shape: one handler built with `leader = true`, the other with `leader = false` -/
  leaderL : scL.leader = true
  leaderF : scF.leader = false
  /-- common party list; `self` / `peer` swapped; two different parties, both in the list (`CanAccept` refuses a
      message whose sender is not a party, and `IsFor` refuses the own id as sender) -/
  ids : scL.ids = scF.ids
  peerL : scL.peer = scF.self
  peerF : scF.peer = scL.self
  distinct : scL.self ≠ scF.self
  memL : scL.self ∈ scL.ids
  memF : scF.self ∈ scL.ids
  /-- common protocol id, ssid, final round number (`CanAccept` compares them) -/
  proto : scL.proto = scF.proto
  ssid : scL.ssid = scF.ssid
  final : scL.final = scF.final
  /-- no scripted `Finalize` failure -/
  noFinErrL : scL.finErrAt = 0
  noFinErrF : scF.finErrAt = 0
  /-- the round numbers of each script are pairwise different (`Cex.dup_rounds_abort`) -/
  numsL : scL.rounds.Pairwise (fun a b => a.num ≠ b.num)
  numsF : scF.rounds.Pairwise (fun a b => a.num ≠ b.num)
  /-- MATCHING: every message a party sends (a round other than its last one with `send = true`) carries a round
      number that is not 0 (0 marks an abort notice: `Cex.send_zero_aborts`), is not above the final round number
      (`CanAccept`), and is the number of a round of the other party that expects input (`Cex.send_to_silent_aborts`) -/
  sendsL : ∀ r ∈ scL.rounds.dropLast, r.send = true →
    1 ≤ r.sendNum ∧ r.sendNum ≤ scL.final ∧ ∃ sp ∈ scF.rounds, sp.num = r.sendNum ∧ sp.recv = true
  sendsF : ∀ r ∈ scF.rounds.dropLast, r.send = true →
    1 ≤ r.sendNum ∧ r.sendNum ≤ scL.final ∧ ∃ sp ∈ scL.rounds, sp.num = r.sendNum ∧ sp.recv = true

instance (scL scF : Script2) : Decidable (Session2Ok scL scF) :=
  decidable_of_iff (scL.leader = true ∧ scF.leader = false ∧ scL.ids = scF.ids ∧ scL.peer = scF.self ∧
      scF.peer = scL.self ∧ scL.self ≠ scF.self ∧ scL.self ∈ scL.ids ∧ scF.self ∈ scL.ids ∧ scL.proto = scF.proto ∧
      scL.ssid = scF.ssid ∧ scL.final = scF.final ∧ scL.finErrAt = 0 ∧ scF.finErrAt = 0 ∧
      scL.rounds.Pairwise (fun a b => a.num ≠ b.num) ∧ scF.rounds.Pairwise (fun a b => a.num ≠ b.num) ∧
      (∀ r ∈ scL.rounds.dropLast, r.send = true →
        1 ≤ r.sendNum ∧ r.sendNum ≤ scL.final ∧ ∃ sp ∈ scF.rounds, sp.num = r.sendNum ∧ sp.recv = true) ∧
      (∀ r ∈ scF.rounds.dropLast, r.send = true →
        1 ≤ r.sendNum ∧ r.sendNum ≤ scL.final ∧ ∃ sp ∈ scL.rounds, sp.num = r.sendNum ∧ sp.recv = true))
    ⟨fun h => ⟨h.1, h.2.1, h.2.2.1, h.2.2.2.1, h.2.2.2.2.1, h.2.2.2.2.2.1, h.2.2.2.2.2.2.1, h.2.2.2.2.2.2.2.1,
        h.2.2.2.2.2.2.2.2.1, h.2.2.2.2.2.2.2.2.2.1, h.2.2.2.2.2.2.2.2.2.2.1, h.2.2.2.2.2.2.2.2.2.2.2.1,
        h.2.2.2.2.2.2.2.2.2.2.2.2.1, h.2.2.2.2.2.2.2.2.2.2.2.2.2.1, h.2.2.2.2.2.2.2.2.2.2.2.2.2.2.1,
        h.2.2.2.2.2.2.2.2.2.2.2.2.2.2.2.1, h.2.2.2.2.2.2.2.2.2.2.2.2.2.2.2.2⟩,
     fun h => ⟨h.1, h.2, h.3, h.4, h.5, h.6, h.7, h.8, h.9, h.10, h.11, h.12, h.13, h.14, h.15, h.16, h.17⟩⟩

/-- What (d) needs on top of `Session2Ok`: no party waits forever.
    * the round numbers of each script increase (`Cex.unordered_deadlock`);
    * every round that expects input is fed: the other party has a round, not its last one, that sends a message
      with this round's number, and the sending round's own number is smaller — or equal, but then the sending round
      needs no input itself (the leader's first round in the alternating shape: round 1 sends the message for the
      follower's round 1). Without the order condition two rounds can wait for each other (`Cex.cyclic_deadlock`);
    * the follower does not move in its constructor: if its first round needs no input, it is the leader's first
      message that wakes it, so the leader's first round must need no input, send, and not be the last one
      (`Cex.unwoken_deadlock`). -/
structure Session2Live (scL scF : Script2) : Prop where
  incrL : scL.rounds.Pairwise (fun a b => a.num < b.num)
  incrF : scF.rounds.Pairwise (fun a b => a.num < b.num)
  recvL : ∀ sp ∈ scL.rounds, sp.recv = true → ∃ r ∈ scF.rounds.dropLast, r.send = true ∧ r.sendNum = sp.num ∧
    (r.num < sp.num ∨ (r.num = sp.num ∧ r.recv = false))
  recvF : ∀ sp ∈ scF.rounds, sp.recv = true → ∃ r ∈ scL.rounds.dropLast, r.send = true ∧ r.sendNum = sp.num ∧
    (r.num < sp.num ∨ (r.num = sp.num ∧ r.recv = false))
  wake : (scF.rounds.getD 0 default).recv = true ∨
    ((scL.rounds.getD 0 default).recv = false ∧ (scL.rounds.getD 0 default).send = true ∧ 2 ≤ scL.rounds.length)

instance (scL scF : Script2) : Decidable (Session2Live scL scF) :=
  decidable_of_iff (scL.rounds.Pairwise (fun a b => a.num < b.num) ∧ scF.rounds.Pairwise (fun a b => a.num < b.num) ∧
      (∀ sp ∈ scL.rounds, sp.recv = true → ∃ r ∈ scF.rounds.dropLast, r.send = true ∧ r.sendNum = sp.num ∧
        (r.num < sp.num ∨ (r.num = sp.num ∧ r.recv = false))) ∧
      (∀ sp ∈ scF.rounds, sp.recv = true → ∃ r ∈ scL.rounds.dropLast, r.send = true ∧ r.sendNum = sp.num ∧
        (r.num < sp.num ∨ (r.num = sp.num ∧ r.recv = false))) ∧
      ((scF.rounds.getD 0 default).recv = true ∨
        ((scL.rounds.getD 0 default).recv = false ∧ (scL.rounds.getD 0 default).send = true ∧ 2 ≤ scL.rounds.length)))
    ⟨fun h => ⟨h.1, h.2.1, h.2.2.1, h.2.2.2.1, h.2.2.2.2⟩, fun h => ⟨h.1, h.2, h.3, h.4, h.5⟩⟩

end Mps.System2
