import Mps.ZK.Rec
/-
  M3: executable verifiers of zkmod and zkprm (`pkg/zk/mod/mod.go`, `pkg/zk/prm/prm.go`):
  StatParam = 80 parallel repetitions, challenges read from one BLAKE3 stream
  (zkmod: 80 × `sample.ModN`; zkprm: 80 bytes, one bit each).
-/
namespace Mps.ZK
open Mps

/-! ## zkmod: pub = {N}, proof = {W, Responses = list of {A, B, X, Z}}.
    `Verify` calls `IsValid` first: a nil W and a nil or out-of-range X / Z (not in [1, N-1]) are refused there,
    before `big.Jacobi` / `big.Int.Exp` / `big.Int.Mul` (which dereference them) are reached. -/
namespace Mod

def sel : List Sel := [("", "n"), ("", "w")]

def param (pub prf : Rec) (p : String) : List Val :=
  if p == "n" then [pub.get "N"] else if p == "w" then [prf.get "W"] else []

/-- the 80 challenges yᵢ; `none` = challenge returned an error -/
def challenge (pre : List Item) (pub prf : Rec) : Except String (Option (List Nat)) := do
  let o ← challengeStream pre (selectVals sel pub prf (param pub prf))
  return o.map fun o => modNList o (pub.pkV "N") StatParam 0

structure Resp where
  a : Bool
  b : Bool
  x : Option Int
  z : Option Int

def respOf : Val → Resp
  | .list [.bool a, .bool b, .big x, .big z] => ⟨a, b, x, z⟩
  | _ => ⟨false, false, none, none⟩

/-- `Response.Verify(n, w, y)` -/
def respVerify (n : Nat) (w : Int) (y : Nat) (r : Resp) : Verdict := do
  let z ← match r.z with | some z => pure z | none => throw "nil Z in zkmod response (big.Int.Exp)"
  -- lhs = zⁿ mod n  (big.Int.Exp: Euclidean residue)
  if powMod (intMod z n) n n != y then return false
  let x ← match r.x with | some x => pure x | none => throw "nil X in zkmod response (big.Int.Mul)"
  let lhs := intMod (x * x * (x * x)) n
  let rhs : Int := y
  let rhs := if r.a then -rhs else rhs
  let rhs := if r.b then rhs * w else rhs
  return lhs == intMod rhs n

def verify (pre : List Item) (pub prf : Rec) : Verdict := do
  let n := pub.pkV "N"
  let rs := (prf.listV "Responses").map respOf
  -- IsValid (called first by Verify): W present, N odd and (W/N) = -1, W and every response in [1, N-1] and coprime to N
  match prf.intV "W" with
  | none => return false
  | some w =>
    if n % 2 == 0 || jacobi w n != -1 then return false
    if !isValidBigModN n (some w) then return false
    if !(rs.all fun r => isValidBigModN n r.x && isValidBigModN n r.z) then return false
    -- Verify
    if n % 2 == 0 || probablyPrime n then return false
    if jacobi w n != -1 then return false
    if !isValidBigModN n (some w) then return false
    match ← challenge pre pub prf with
    | none => return false
    | some ys =>
      -- every response is verified (pool.Parallelize evaluates all of them): a panic anywhere is a panic
      let mut ok := true
      for (r, y) in rs.zip ys do
        if !(← respVerify n w y r) then ok := false
      return ok

end Mod

/-! ## zkprm: pub = {Aux}, proof = {As, Zs} -/
namespace Prm

def sel : List Sel := [("public", "Aux"), ("each", "A")]

/-- `hash.WriteAny(public.Aux)` (error returned), then one ignored-error `WriteAny` per Aᵢ; 80 bits -/
def challenge (pre : List Item) (pub prf : Rec) : Except String (Option (List Bool)) := do
  match (pub.get "Aux").toHV.write with
  | .panic w => throw w
  | .err =>
    -- the error is only looked at after the whole challenge has been computed
    let _ ← writeEachIgnoringErrors ((prf.listV "As").map Val.toHV)
    return none
  | .item i =>
    let is ← writeEachIgnoringErrors ((prf.listV "As").map Val.toHV)
    return some (bitVector (digestRoot (pre ++ i :: is)))

def intOf : Val → Option Int
  | .big z => z
  | _ => none

def verify (pre : List Item) (pub prf : Rec) : Verdict := do
  let aux := pub.pedV "Aux"
  if !aux.validate then return false
  let as := (prf.listV "As").map intOf
  let zs := (prf.listV "Zs").map intOf
  -- IsValid: every Aᵢ and Zᵢ present, in [1, N-1] and coprime to N
  if !((as ++ zs).all (isValidBigModN aux.n)) then return false
  match ← challenge pre pub prf with
  | none => return false
  | some es =>
    let one (a z : Option Int) (e : Bool) : Bool :=
      if !(isValidBigModN aux.n a && isValidBigModN aux.n z) then false
      else
        match a, z with
        | some a, some z =>
          if a == 1 then false
          else
            let lhs := powMod aux.t z.natAbs aux.n
            let rhs := if e then (a.natAbs * aux.s) % aux.n else a.natAbs
            lhs == rhs
        | _, _ => false
    return (as.zip (zs.zip es)).all fun (a, z, e) => one a z e

end Prm

end Mps.ZK
