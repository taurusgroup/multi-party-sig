import Mps.Secp256k1
import Mps.Sha2
/-
  M8/C16 — stand-alone signature primitives, written FROM THE STANDARDS (core-only, executable):

    * SEC 1 v2 §4.1.3/§4.1.4 ECDSA (bits2int truncation, textbook (r,s) verification, the same
      equation for the library's (R, s) signature format), §4.1.6 public-key recovery,
      Ethereum's 65-byte r‖s‖v export with EIP-2 low-s;
    * BIP-340 (default signing, verification, public keys), tagged hashes from `Mps.Sha2`,
      `lift_x` from `Mps.Secp`.

  The algebraic cores are written ONCE over a plain record of operations `Ops F G`; they are
  executed with the secp256k1 instance `secp` (this file) and proved about for every lawful
  instance in `MpsProofs/Sig.lean` (Mathlib `Field F`, `Module F G`).

  Next to each specification stands the MODEL of what the Go code does (suffix `Go`), a
  transcription of pkg/ecdsa/signature.go, pkg/taproot/signature.go and the decoders of
  pkg/math/curve/secp256k1.go — including their defects. Three functions have a second model, without (`…Go`) and
  with (`…Fixed`) one check; `Mps/SigVariant.lean` says which of the two /repo has.
-/
namespace Mps.Sig
open Mps Mps.Secp

/-! ## 0. The record of operations -/

structure Ops (F G : Type) where
  fzero : F
  fadd  : F → F → F
  fneg  : F → F
  fmul  : F → F → F
  finv  : F → F
  gzero : G
  gadd  : G → G → G
  gneg  : G → G
  smul  : F → G → G
  gen   : G
  /-- x coordinate of a point read as a scalar (`Point.XScalar`; identity ↦ 0) -/
  xs    : G → F
  /-- `HasEvenY` -/
  evenY : G → Bool

/-- x coordinate as an integer `< p` (identity ↦ 0, as `XBytes` after `ToAffine`) -/
def xcoord : Pt → Nat
  | .inf => 0
  | .aff x _ => x

def hasEvenY : Pt → Bool
  | .inf => true
  | .aff _ y => y % 2 == 0

/-- secp256k1 with scalars as `Nat` in `[0, n)` -/
def secp : Ops Nat Pt where
  fzero := 0
  fadd a b := (a + b) % n
  fneg a := (n - a % n) % n
  fmul a b := a * b % n
  finv a := modInv a n
  gzero := .inf
  gadd := add
  gneg := neg
  smul := mul
  gen := G
  xs P := xcoord P % n
  evenY := hasEvenY

/-! ## 1. ECDSA over `Ops` -/

section generic
variable {F G : Type} [DecidableEq F] [DecidableEq G] (O : Ops F G)

/-- SPEC. The standard verification equation for a signature given as (nonce point R, s):
    r = x(R) mod n, r ≠ 0, s ≠ 0, s⁻¹·(m·G + r·X) = R. -/
def ecdsaVerifySpecO (X : G) (m : F) (R : G) (s : F) : Bool :=
  decide (O.xs R ≠ O.fzero) && decide (s ≠ O.fzero) &&
  decide (O.smul (O.finv s) (O.gadd (O.smul m O.gen) (O.smul (O.xs R) X)) = R)

/-- SPEC. Textbook verification of (r, s) (SEC 1 §4.1.4): u₁ = m·s⁻¹, u₂ = r·s⁻¹,
    P = u₁·G + u₂·X, P ≠ O, x(P) mod n = r. (Range checks on r, s are on the integer level.) -/
def ecdsaVerifyRSO (X : G) (m r s : F) : Bool :=
  let w := O.finv s
  let P := O.gadd (O.smul (O.fmul m w) O.gen) (O.smul (O.fmul r w) X)
  decide (r ≠ O.fzero) && decide (s ≠ O.fzero) && decide (P ≠ O.gzero) && decide (O.xs P = r)

/-- MODEL of `ecdsa.Signature.Verify` (pkg/ecdsa/signature.go), statement by statement. -/
def verifyGoO (X : G) (m : F) (R : G) (s : F) : Bool :=
  let r := O.xs R                                    -- r := sig.R.XScalar()
  if r = O.fzero ∨ s = O.fzero then false else       -- if r.IsZero() || sig.S.IsZero() { return false }
  let sInv := O.finv s                               -- sInv := NewScalar().Set(sig.S).Invert()
  let mG := O.smul m O.gen                           -- mG := m.ActOnBase()
  let rX := O.smul r X                               -- rX := r.Act(X)
  let R2 := O.gadd mG rX                             -- R2 := mG.Add(rX)
  let R2 := O.smul sInv R2                           -- R2 = sInv.Act(R2)
  decide (R2 = R)                                    -- return R2.Equal(sig.R)

/-- SPEC. Signing with secret key x and nonce k: R = k·G, s = k⁻¹(m + r·x). -/
def ecdsaSignO (x k m : F) : G × F :=
  let R := O.smul k O.gen
  (R, O.fmul (O.finv k) (O.fadd m (O.fmul (O.xs R) x)))

/-- low-s normalisation in the (R, s) format: (R, s) ↦ (−R, −s) when s is "high" -/
def ethNormalizeO (high : F → Bool) (R : G) (s : F) : G × F :=
  if high s then (O.gneg R, O.fneg s) else (R, s)

/-- SPEC. Public-key recovery (SEC 1 §4.1.6 step 1.6): Q = r⁻¹·(s·R − m·G). -/
def recoverO (m : F) (R : G) (s : F) : G :=
  O.smul (O.finv (O.xs R)) (O.gadd (O.smul s R) (O.gneg (O.smul m O.gen)))

/-! ## 2. BIP-340 core over `Ops`
  `X` is the type of x-only coordinates, `xc` the coordinate map, `lift` = `lift_x`,
  `chal rx px m` = int(hash_{BIP0340/challenge}(bytes(rx) ‖ bytes(px) ‖ m)) mod n. -/

variable {X M : Type} [DecidableEq X]

/-- SPEC. BIP-340 default signing after the nonce k′ has been derived: negate d′ / k′ when the
    point has odd Y; sig = (x(R), k + e·d). -/
def schnorrSignO (xc : G → X) (chal : X → X → M → F) (d' k' : F) (m : M) : X × F :=
  let P := O.smul d' O.gen
  let d := if O.evenY P then d' else O.fneg d'
  let R := O.smul k' O.gen
  let k := if O.evenY R then k' else O.fneg k'
  let e := chal (xc R) (xc P) m
  (xc R, O.fadd k (O.fmul e d))

/-- SPEC. BIP-340 verification: P = lift_x(pk); R = s·G − e·P; fail if R is infinite, has odd Y
    or x(R) ≠ r. -/
def schnorrVerifyO (xc : G → X) (lift : X → Option G) (chal : X → X → M → F)
    (px : X) (m : M) (rx : X) (s : F) : Bool :=
  match lift px with
  | none => false
  | some P =>
    let e := chal rx px m
    let R := O.gadd (O.smul s O.gen) (O.gneg (O.smul e P))
    decide (R ≠ O.gzero) && O.evenY R && decide (xc R = rx)

end generic

/-! ## 3. ECDSA on secp256k1 -/

/-- SPEC (SEC 1 §4.1.3 step 5, as OpenSSL): the leftmost min(8·|h|, qbits) bits of the hash. -/
def bits2int (qbits : Nat) (h : Bytes) : Nat :=
  let blen := 8 * h.length
  if blen > qbits then unbe h >>> (blen - qbits) else unbe h

/-- SPEC. hash ↦ scalar -/
def fromHash (h : Bytes) : Nat := bits2int 256 h % n

/-- MODEL of `curve.FromHash` (pkg/math/curve/curve.go) for secp256k1: truncate to
    `orderBytes = 32` bytes first, shift out `excess` bits, reduce (`SetNat`). -/
def fromHashGo (h : Bytes) : Nat :=
  let orderBits := 256
  let orderBytes := (orderBits + 7) / 8
  let h := if h.length > orderBytes then h.take orderBytes else h
  let s := unbe h
  let s := if 8 * h.length > orderBits then s >>> (8 * h.length - orderBits) else s
  s % n

def ecdsaVerifySpec (X : Pt) (m : Nat) (R : Pt) (s : Nat) : Bool :=
  decide (s < n) && ecdsaVerifySpecO secp X m R s

/-- textbook (r, s) verification with the integer range checks 1 ≤ r, s ≤ n − 1 -/
def ecdsaVerifyRS (X : Pt) (m r s : Nat) : Bool :=
  decide (0 < r) && decide (r < n) && decide (0 < s) && decide (s < n) && ecdsaVerifyRSO secp X (m % n) r s

def verifyGo (X : Pt) (hash : Bytes) (R : Pt) (s : Nat) : Bool :=
  verifyGoO secp X (fromHashGo hash) R s

def ecdsaSign (x k m : Nat) : Pt × Nat := ecdsaSignO secp x k m

/-! ### decoders -/

/-- MODEL of `Secp256k1Point.UnmarshalBinary` without the prefix check of hooks/secp256k1-strict-prefix.diff:
    33 bytes; `X.SetByteSlice(data[1:])` refuses x ≥ p; `DecompressY(&X, data[0] == 3, &Y)` — the prefix byte
    is only compared with 3. -/
def decodeGo (bs : Bytes) : Option Pt :=
  match bs with
  | [] => none
  | pre :: rest =>
    if rest.length ≠ 32 then none
    else liftXParity (unbe rest) (pre == 3)

/-- MODEL of `Secp256k1Point.UnmarshalBinary` with the prefix check of hooks/secp256k1-strict-prefix.diff
    (`data[0] != 2 && data[0] != 3` is an error) -/
def decodeFixed (bs : Bytes) : Option Pt :=
  match bs with
  | [] => none
  | pre :: rest =>
    if rest.length ≠ 32 then none
    else if pre ≠ 2 ∧ pre ≠ 3 then none
    else liftXParity (unbe rest) (pre == 3)

/-- MODEL of `Secp256k1Point.MarshalBinary` (`ToAffine` maps the identity to x = y = 0) -/
def encodeGo : Pt → Bytes
  | .inf => 0x02 :: List.replicate 32 0
  | P => encode P

/-- MODEL of `Secp256k1Scalar.UnmarshalBinary`: exactly 32 bytes, value < n -/
def scalarDecodeGo (bs : Bytes) : Option Nat :=
  if bs.length ≠ 32 then none
  else if unbe bs ≥ n then none else some (unbe bs)

/-! ### Ethereum export -/

/-- SPEC. 65 bytes r ‖ s ‖ v: r = x(R) mod n, s low (EIP-2), v = recovery id
    (bit 0: parity of y(R) after normalisation; bit 1: x(R) ≥ n). -/
def ethExportSpec (R : Pt) (s : Nat) : Option Bytes :=
  match R with
  | .inf => none
  | .aff x y =>
    let high := s > n / 2
    let s' := if high then n - s else s
    let par := (if y % 2 = 1 then 1 else 0) ^^^ (if high then 1 else 0)
    let v := par + (if x ≥ n then 2 else 0)
    some (beN 32 (x % n) ++ beN 32 s' ++ [UInt8.ofNat v])

def ethLowS (sig : Bytes) : Bool :=
  let s := unbe ((sig.drop 32).take 32)
  decide (0 < s) && decide (s ≤ n / 2)

/-- SPEC. Standard public-key recovery from r ‖ s ‖ v (v ∈ {0,1,2,3}) and the message scalar. -/
def ecrecover (m : Nat) (sig : Bytes) : Option Pt :=
  if sig.length ≠ 65 then none else
  let r := unbe (sig.take 32)
  let s := unbe ((sig.drop 32).take 32)
  let v := ((sig.drop 64).headD 0).toNat
  if r = 0 ∨ r ≥ n ∨ s = 0 ∨ s ≥ n ∨ v > 3 then none else
  let x := r + (v / 2) * n
  match liftXParity x (v % 2 == 1) with
  | none => none
  | some Rp =>
    let Q := recoverO secp (m % n) Rp s
    if Q = .inf then none else some Q

/-- MODEL of `Signature.SigEthereum`. The receiver is a struct VALUE holding two interface
    pointers, so `sig.S.Negate()` and `sig.R.UnmarshalBinary(r)` mutate the CALLER's signature:
    the result is (output or error, R afterwards, s afterwards). -/
def sigEthereumGoWith (dec : Bytes → Option Pt) (R : Pt) (s : Nat) : Option Bytes × Option Pt × Nat :=
  let over := s > n / 2                               -- IsOverHalfOrder
  let s' := if over then (n - s) % n else s           -- sig.S.Negate()
  let r := encodeGo R                                 -- sig.R.MarshalBinary()
  let sb := beN 32 s'                                 -- sig.S.MarshalBinary()
  let v : UInt8 := r.headD 0 - 2                      -- v := rs[0] - 2
  let v := if over then v ^^^ 1 else v
  let out := r.drop 1 ++ sb ++ [v]                    -- copy(rs, rs[1:]); rs[64] = v
  let r' := (v + 2) :: r.drop 1                       -- r[0] = rs[64] + 2
  match dec r' with                                   -- sig.R.UnmarshalBinary(r)
  | none => (none, none, s')
  | some R' => (some out, some R', s')

def sigEthereumGo (R : Pt) (s : Nat) : Option Bytes × Option Pt × Nat := sigEthereumGoWith decodeGo R s

/-- MODEL of `SigEthereum` after the patch proposed in hooks/ecdsa-sigethereum-reduce-r.diff:
    the exported r is `XScalar` (x mod n) and bit 1 of v records the reduction. `dec` is the point
    decoder in force. -/
def sigEthereumFixed (dec : Bytes → Option Pt) (R : Pt) (s : Nat) : Option Bytes × Option Pt × Nat :=
  let over := s > n / 2
  let s' := if over then (n - s) % n else s
  let r := encodeGo R
  let sb := beN 32 s'
  let rModN := beN 32 (xcoord R % n)                  -- sig.R.XScalar().MarshalBinary()
  let reduced := rModN != r.drop 1
  let v : UInt8 := r.headD 0 - 2
  let v := if over then v ^^^ 1 else v
  let r' := (v + 2) :: r.drop 1
  match dec r' with
  | none => (none, none, s')
  | some R' => (some (rModN ++ sb ++ [if reduced then v ||| 2 else v]), some R', s')

/-! ## 4. BIP-340 on secp256k1 -/

def bytesXor (a b : Bytes) : Bytes := List.zipWith (· ^^^ ·) a b

namespace Bip340
open Mps.Sha2

def challenge (rx px : Nat) (m : Bytes) : Nat :=
  unbe (taggedHash "BIP0340/challenge" [beN 32 rx, beN 32 px, m]) % n

/-- SPEC. Public key generation: d′ = int(sk); fail if d′ = 0 or d′ ≥ n; bytes(d′·G). -/
def pubkey (sk : Bytes) : Option Bytes :=
  if sk.length ≠ 32 then none else
  let d' := unbe sk
  if d' = 0 ∨ d' ≥ n then none else some (xBytes (mul d' G))

/-- SPEC. Verification (BIP-340 "Verification"); inputs of the wrong length are not accepted. -/
def verify (pk m sig : Bytes) : Bool :=
  if pk.length ≠ 32 ∨ sig.length ≠ 64 then false else
  let r := unbe (sig.take 32)
  let s := unbe (sig.drop 32)
  if r ≥ p ∨ s ≥ n then false else
  schnorrVerifyO secp xcoord liftX challenge (unbe pk) m r s

/-- SPEC. Default signing (BIP-340 "Default Signing") with auxiliary randomness `aux` (32 bytes). -/
def sign (sk aux m : Bytes) : Option Bytes :=
  if sk.length ≠ 32 ∨ aux.length ≠ 32 then none else
  let d' := unbe sk
  if d' = 0 ∨ d' ≥ n then none else
  let P := mul d' G
  let d := if hasEvenY P then d' else n - d'
  let t := bytesXor (beN 32 d) (taggedHash "BIP0340/aux" [aux])
  let rand := taggedHash "BIP0340/nonce" [t, xBytes P, m]
  let k' := unbe rand % n
  if k' = 0 then none else
  let (rx, s) := schnorrSignO secp xcoord challenge d' k' m
  let sig := beN 32 rx ++ beN 32 s
  if verify (xBytes P) m sig then some sig else none

/-! ### model of pkg/taproot/signature.go -/

/-- where `Sign` takes the 32 bytes `a` from: the reader, or (rand == nil) the value the atomic
    counter returned, big-endian in the first 8 bytes -/
inductive RandSrc
  | reader (a : Bytes)
  | counter (ctr : Nat)
  deriving Repr, DecidableEq

def auxOf : RandSrc → Bytes
  | .reader a => a
  | .counter c => beN 8 c ++ List.replicate 24 0

/-- the input of the nonce hash: t ‖ bytes(P) ‖ m with t = bytes(d) ⊕ hash_aux(a) -/
def nonceInput (dBytes auxHash pBytes m : Bytes) : Bytes := bytesXor dBytes auxHash ++ pBytes ++ m

/-- MODEL of `SecretKey.Public` -/
def publicGo (sk : Bytes) : Option Bytes :=
  match scalarDecodeGo sk with
  | none => none
  | some d => if d = 0 then none else some (xBytes (mul d G))

/-- MODEL of `SecretKey.Sign(rand, m)` -/
def signGo (sk : Bytes) (rs : RandSrc) (m : Bytes) : Option Bytes :=
  match scalarDecodeGo sk with                                   -- d.UnmarshalBinary(sk); d.IsZero()
  | none => none
  | some d =>
    if d = 0 then none else
    let P := mul d G
    let PBytes := xBytes P
    let d := if !hasEvenY P then (n - d) % n else d                -- d.Negate()
    let a := auxOf rs
    let t := beN 32 d                                              -- d.MarshalBinary()
    let aHash := taggedHash "BIP0340/aux" [a]
    let t := bytesXor t aHash                                      -- t[i] ^= aHash[i]
    let randHash := taggedHash "BIP0340/nonce" [t, PBytes, m]
    let k := unbe randHash % n                                     -- _ = k.UnmarshalBinary(randHash)
    if k = 0 then none else                                        -- "invalid nonce"
    let R := mul k G
    let k := if !hasEvenY R then (n - k) % n else k                -- k.Negate()
    let RBytes := xBytes R
    let e := unbe (taggedHash "BIP0340/challenge" [RBytes, PBytes, m]) % n
    let z := (e * d % n + k) % n                                   -- e.Mul(d).Add(k)
    some (RBytes ++ beN 32 z)

/-- MODEL of `PublicKey.Verify(sig, m)` over a `LiftX` without the length check of
    hooks/secp256k1-liftx-length.diff. `LiftX` then goes through `FieldVal.SetByteSlice`, which
    takes the first 32 bytes of `pk` (left-padding a shorter slice): the length of `pk` is never
    checked, while the challenge hashes `pk` as given. -/
def verifyGo (pk m sig : Bytes) : Bool :=
  if sig.length ≠ 64 then false else                               -- len(sig) != SignatureLen
  match liftX (unbe (pk.take 32)) with                             -- Secp256k1{}.LiftX(pk)
  | none => false
  | some P =>
    match scalarDecodeGo (sig.drop 32) with                        -- s.UnmarshalBinary(sig[32:])
    | none => false
    | some s =>
      let e := unbe (taggedHash "BIP0340/challenge" [sig.take 32, pk, m]) % n
      let R := mul s G                                             -- s.ActOnBase()
      let check := add R (neg (mul e P))                           -- R.Sub(e.Act(P))
      if check = .inf then false                                   -- IsIdentity
      else if !hasEvenY check then false
      else xBytes check == sig.take 32

/-- MODEL of `PublicKey.Verify` over a `LiftX` with the length check of hooks/secp256k1-liftx-length.diff
    (`LiftX` refuses slices that are not 32 bytes long) -/
def verifyFixed (pk m sig : Bytes) : Bool :=
  if pk.length ≠ 32 then false else verifyGo pk m sig

/-! ### BIP-340 test vectors 0–3 of test-vectors.csv (tests, not theorems) -/

def vectors : List (String × String × String × String × String) :=
  [ ("0000000000000000000000000000000000000000000000000000000000000003",
     "f9308a019258c31049344f85f89d5229b531c845836f99b08601f113bce036f9",
     "0000000000000000000000000000000000000000000000000000000000000000",
     "0000000000000000000000000000000000000000000000000000000000000000",
     "e907831f80848d1069a5371b402410364bdf1c5f8307b0084c55f1ce2dca821525f66a4a85ea8b71e482a74f382d2ce5ebeee8fdb2172f477df4900d310536c0"),
    ("b7e151628aed2a6abf7158809cf4f3c762e7160f38b4da56a784d9045190cfef",
     "dff1d77f2a671c5f36183726db2341be58feae1da2deced843240f7b502ba659",
     "0000000000000000000000000000000000000000000000000000000000000001",
     "243f6a8885a308d313198a2e03707344a4093822299f31d0082efa98ec4e6c89",
     "6896bd60eeae296db48a229ff71dfe071bde413e6d43f917dc8dcf8c78de33418906d11ac976abccb20b091292bff4ea897efcb639ea871cfa95f6de339e4b0a"),
    ("c90fdaa22168c234c4c6628b80dc1cd129024e088a67cc74020bbea63b14e5c9",
     "dd308afec5777e13121fa72b9cc1b7cc0139715309b086c960e18fd969774eb8",
     "c87aa53824b4d7ae2eb035a2b5bbbccc080e76cdc6d1692c4b0b62d798e6d906",
     "7e2d58d8b3bcdf1abadec7829054f90dda9805aab56c77333024b9d0a508b75c",
     "5831aaeed7b44bb74e5eab94ba9d4294c49bcf2a60728d8b4c200f50dd313c1bab745879a5ad954a72c45a91c3a51d3c7adea98d82f8481e0e1e03674a6f3fb7"),
    ("0b432b2677937381aef05bb02a66ecd012773062cf3fa2549e44f58ed2401710",
     "25d1dff95105f5253c4022f628a996ad3a0d95fbf21d468a1b33f8c160d8f517",
     "ffffffffffffffffffffffffffffffffffffffffffffffffffffffffffffffff",
     "ffffffffffffffffffffffffffffffffffffffffffffffffffffffffffffffff",
     "7eb0509757e246f19449885651611cb965ecc1a187dd51b64fda1edc9637d5ec97582b9cb13db3933705b32ba982af5af25fd78881ebb32771fc5922efc66ea3") ]

def hexB (s : String) : Bytes := (ofHex s).getD []

def selfTest : Bool :=
  vectors.all fun (sk, pk, aux, m, sig) =>
    pubkey (hexB sk) == some (hexB pk)
    && sign (hexB sk) (hexB aux) (hexB m) == some (hexB sig)
    && signGo (hexB sk) (.reader (hexB aux)) (hexB m) == some (hexB sig)
    && verify (hexB pk) (hexB m) (hexB sig)
    && verifyGo (hexB pk) (hexB m) (hexB sig)

end Bip340

/-- ECDSA / Ethereum self test on a fixed key: sign, verify three ways, export, recover. -/
def selfTest : Bool :=
  let x := 0xAA5E28D6A97A2479A65527F7290311A3624D4CC0FA1578598EE3C2613BF99522
  let X := mul x G
  let hs : List Bytes := [[], [1, 2, 3], List.replicate 32 0xab, List.replicate 40 0xff]
  hs.all fun h =>
    let m := fromHash h
    [7, x / 3, n - 5].all fun k =>
      let (R, s) := ecdsaSign x k m
      fromHashGo h == m
      && ecdsaVerifySpec X m R s && verifyGo X h R s && ecdsaVerifyRS X m (xcoord R % n) s
      && !ecdsaVerifySpec X ((m + 1) % n) R s
      && ecdsaVerifySpec X m (neg R) (n - s)
      && (match ethExportSpec R s with
          | none => false
          | some e => ethLowS e && ecrecover m e == some X
                      && (sigEthereumGo R s).1 == some e)
      && decodeGo (encode R) == some R && decodeStrict (encode R) == some R

end Mps.Sig
