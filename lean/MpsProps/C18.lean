import MpsProps.Anchors.C18
import MpsProofs.Pool
import MpsProofs.Readers
import MpsGen.Pool
/-
  C18 — The worker pool always returns and never loses workers.

  Model: Mps.Pool (transition systems transcribing pkg/pool/pool.go at its synchronisation points).
  The theorems below are about the REPAIRED handshake `Pool.Fixed.*` (hooks/pool_fix.diff) and hold
  for EVERY number of workers W ≥ 1, EVERY task count n ≥ 0, EVERY function / oracle and EVERY
  schedule (interleaving of caller and workers at the synchronisation points) — no bound.
  For pool.go before /repo commit 38019e1 (`Pool.Par`, `Pool.Search`) the same statements are FALSE; the
  witnesses at the end are concrete schedules (kernel-evaluated) on which the caller returns while
  a worker is blocked for ever, and on which Search returns a nil slot.
-/
namespace Mps.C18
open Mps.Pool

abbrev idlePar (W : Nat) : List Fixed.Par.W := List.replicate W .idle
abbrev idleSearch (W : Nat) : List Fixed.Search.W := List.replicate W .idle

/-- Whenever Parallelize returns — after ANY schedule — the result slice is exactly
    `[f 0, …, f (n-1)]`. -/
theorem parallelize_returns_results (W n : Nat) (f : Nat → Val) (ls : List Fixed.Par.Label) (s : Fixed.Par.State)
    (h : run (Fixed.Par.step n f) (Fixed.Par.init (idlePar W) n) ls = some s) (hr : s.ret = true) :
    s.res = (List.range n).map (fun i => some (f i)) :=
  Fixed.Par.results_of_ret (Fixed.Par.inv_run W n f ls s h) hr

/-- … and at that moment every worker is back at `range commands` (idle). -/
theorem workers_all_idle_at_return (W n : Nat) (f : Nat → Val) (ls : List Fixed.Par.Label) (s : Fixed.Par.State)
    (h : run (Fixed.Par.step n f) (Fixed.Par.init (idlePar W) n) ls = some s) (hr : s.ret = true) :
    s.ws = idlePar W :=
  Fixed.Par.idle_of_ret (Fixed.Par.inv_run W n f ls s h) hr

/-- No deadlock: in every reachable state in which Parallelize has not returned, some step is enabled. -/
theorem no_deadlock (W n : Nat) (hW : 0 < W) (f : Nat → Val) (ls : List Fixed.Par.Label) (s : Fixed.Par.State)
    (h : run (Fixed.Par.step n f) (Fixed.Par.init (idlePar W) n) ls = some s) (hr : s.ret = false) :
    ∃ l s', Fixed.Par.step n f s l = some s' :=
  Fixed.Par.enabled_of_not_ret hW (Fixed.Par.inv_run W n f ls s h) hr

/-- Termination without any fairness assumption: NO schedule is longer than 3n+1 steps
    (n command rendezvous, n result writes, n notification rendezvous, the return). -/
theorem steps_bounded (W n : Nat) (f : Nat → Val) (ls : List Fixed.Par.Label) (s : Fixed.Par.State)
    (h : run (Fixed.Par.step n f) (Fixed.Par.init (idlePar W) n) ls = some s) : ls.length ≤ 3 * n + 1 := by
  have := Fixed.Par.rank_run n f ls _ s h
  rw [Fixed.Par.rank_init] at this
  omega

/-- Hence every maximal schedule (one that cannot be extended) is a returned call with the right
    results and all workers idle: Parallelize always returns. -/
theorem parallelize_always_returns (W n : Nat) (hW : 0 < W) (f : Nat → Val) (ls : List Fixed.Par.Label) (s : Fixed.Par.State)
    (h : run (Fixed.Par.step n f) (Fixed.Par.init (idlePar W) n) ls = some s)
    (hmax : ∀ l, Fixed.Par.step n f s l = none) :
    s.ret = true ∧ s.res = (List.range n).map (fun i => some (f i)) ∧ s.ws = idlePar W := by
  have hr : s.ret = true := final_of_stuck (no_deadlock W n hW f ls s h) hmax
  exact ⟨hr, parallelize_returns_results W n f ls s h hr, workers_all_idle_at_return W n f ls s h hr⟩

/-- Partial correctness of Search: whenever it returns — after ANY schedule and ANY oracle answers —
    the result has exactly `n` slots and every slot is non-nil. -/
theorem search_returns_count_nonnil (W n : Nat) (hW : 0 < W) (ls : List Fixed.Search.Label) (s : Fixed.Search.State)
    (h : run Fixed.Search.step (Fixed.Search.init (idleSearch W) n) ls = some s) (hr : s.ret = true) :
    s.res.length = n ∧ ∀ i, i < n → ∃ v, s.res[i]? = some (some v) :=
  Fixed.Search.results_of_ret hW (Fixed.Search.inv_run W n ls s h) hr

/-- … and every value in the slice is an answer the oracle actually gave: whatever property `P` all
    non-nil answers of `f` in the schedule have, every returned slot has. -/
theorem search_results_from_oracle (P : Val → Prop) (W n : Nat) (ls : List Fixed.Search.Label) (s : Fixed.Search.State)
    (h : run Fixed.Search.step (Fixed.Search.init (idleSearch W) n) ls = some s)
    (ha : Fixed.Search.answersOk P ls) (i : Nat) (v : Val) (hv : s.res[i]? = some (some v)) : P v :=
  (Fixed.Search.prov_run P ls _ s (Fixed.Search.prov_init P W n) ha h).res _ (List.mem_of_getElem? hv) v rfl

theorem search_workers_all_idle_at_return (W n : Nat) (ls : List Fixed.Search.Label) (s : Fixed.Search.State)
    (h : run Fixed.Search.step (Fixed.Search.init (idleSearch W) n) ls = some s) (hr : s.ret = true) :
    s.ws = idleSearch W :=
  Fixed.Search.idle_of_ret (Fixed.Search.inv_run W n ls s h) hr

theorem search_no_deadlock (W n : Nat) (hW : 0 < W) (ls : List Fixed.Search.Label) (s : Fixed.Search.State)
    (h : run Fixed.Search.step (Fixed.Search.init (idleSearch W) n) ls = some s) (hr : s.ret = false) :
    ∃ l s', Fixed.Search.step s l = some s' :=
  Fixed.Search.enabled_of_not_ret hW (Fixed.Search.inv_run W n ls s h) hr

/-- Termination of Search relative to the oracle: a schedule in which f answered nil `m` times has
    at most 7W + 4n + 1 + 2m steps. (Search cannot terminate if f keeps answering nil — the
    number of nil answers is the fuel; everything else is bounded without fairness.) -/
theorem search_steps_bounded (W n : Nat) (ls : List Fixed.Search.Label) (s : Fixed.Search.State)
    (h : run Fixed.Search.step (Fixed.Search.init (idleSearch W) n) ls = some s) :
    ls.length ≤ 7 * W + 4 * n + 1 + 2 * Fixed.Search.nils ls := by
  have := Fixed.Search.rank_run W n ls _ s (Fixed.Search.inv_init W n) h
  rw [Fixed.Search.rank_init] at this
  omega

theorem search_always_returns (W n : Nat) (hW : 0 < W) (ls : List Fixed.Search.Label) (s : Fixed.Search.State)
    (h : run Fixed.Search.step (Fixed.Search.init (idleSearch W) n) ls = some s)
    (hmax : ∀ l, Fixed.Search.step s l = none) :
    s.ret = true ∧ s.res.length = n ∧ (∀ i, i < n → ∃ v, s.res[i]? = some (some v)) ∧ s.ws = idleSearch W := by
  have hr : s.ret = true := final_of_stuck (search_no_deadlock W n hW ls s h) hmax
  have := search_returns_count_nonnil W n hW ls s h hr
  exact ⟨hr, this.1, this.2, search_workers_all_idle_at_return W n ls s h hr⟩

/-- `Available W k`: after some finite sequence of completed calls (Parallelize and Search mixed;
    any task counts, functions, oracle answers and schedules) on a fresh pool of `W` workers, each
    call starting on the workers the previous one left idle, `k` workers are idle. -/
inductive Available (W : Nat) : Nat → Prop
  | fresh : Available W W
  | par (k n : Nat) (f : Nat → Val) (ls : List Fixed.Par.Label) (s : Fixed.Par.State) :
      Available W k → run (Fixed.Par.step n f) (Fixed.Par.init (idlePar k) n) ls = some s → s.ret = true →
      Available W (s.ws.count .idle)
  | search (k n : Nat) (ls : List Fixed.Search.Label) (s : Fixed.Search.State) :
      Available W k → run Fixed.Search.step (Fixed.Search.init (idleSearch k) n) ls = some s → s.ret = true →
      Available W (s.ws.count .idle)

/-- The pool never loses a worker: after ANY number of consecutive calls all W workers are idle
    again, so every later call runs under the hypotheses of the theorems above. -/
theorem pool_reusable (W k : Nat) (h : Available W k) : k = W := by
  induction h with
  | fresh => rfl
  | par k n f ls s _ hrun hr ih =>
    subst ih
    rw [workers_all_idle_at_return k n f ls s hrun hr]
    simp
  | search k n ls s _ hrun hr ih =>
    subst ih
    rw [search_workers_all_idle_at_return k n ls s hrun hr]
    simp

/-- A nil pool computes the same slice on the calling goroutine: `parallelizeAlone f n` equals what
    every returned pool run yields. -/
theorem nil_pool_same_results (W n : Nat) (f : Nat → Val) (ls : List Fixed.Par.Label) (s : Fixed.Par.State)
    (h : run (Fixed.Par.step n f) (Fixed.Par.init (idlePar W) n) ls = some s) (hr : s.ret = true) :
    parallelizeAlone f n = s.res := by
  rw [parallelizeAlone_eq, parallelize_returns_results W n f ls s h hr]

/-- On a nil pool `searchAlone` returns the first `n` non-nil answers of the oracle (so `n` non-nil
    slots), provided the oracle answers non-nil `n` times. -/
theorem nil_pool_search (answers : List (Option Val)) (n : Nat) (hfuel : n ≤ (answers.filter Option.isSome).length) :
    ∃ res, searchAlone answers n = some res ∧ res.length = n ∧ (∀ x ∈ res, x ≠ none) ∧
      res = (answers.filter Option.isSome).take n := by
  refine ⟨(answers.filter Option.isSome).take n, ?_, ?_, ?_, rfl⟩
  · unfold searchAlone; rw [searchAloneLoop_eq, if_pos hfuel]; simp
  · simp; omega
  · intro x hx hn
    have := List.mem_filter.mp (List.mem_of_mem_take hx)
    subst hn; simp at this

/-! ### The random stream of a search through the pool (sample.Paillier): pool.LockedReader

The workers of one `Search` read the caller's stream through ONE locked reader: their Read calls are serialised, so —
whatever the interleaving — k calls for n bytes are handed the k consecutive blocks of the stream. -/

/-- the i-th serialised read gets bytes [n·i, n·(i+1)) of the stream: no byte is handed out twice -/
theorem locked_reader_block (s : List UInt8) (n k i : Nat) (h : i < k) :
    (Readers.serve s n k)[i]? = some ((s.drop (n * i)).take n) :=
  Readers.serve_getElem? n k s i h

/-- … and together the reads consume exactly the first n·k bytes -/
theorem locked_reader_consumes_prefix (s : List UInt8) (n k : Nat) :
    (Readers.serve s n k).flatten = s.take (n * k) :=
  Readers.serve_flatten n k s

example : Readers.serve [1, 2, 3, 4, 5, 6, 7] 2 3 = [[1, 2], [3, 4], [5, 6]] := by decide

/-- W = 1, n = 1: command, result write, decrement — and the caller's load sees 0 and returns
    before the worker's notification send. -/
def lostSchedule : List Par.Label := [.cmd 0, .write 0, .dec 0, .load]

/-- pool.go before the repair, one worker, one task, ANY f: along `lostSchedule` Parallelize returns
    (with the right result) while the only worker sits in its notification send, and no step is
    enabled ever after: the worker is blocked for ever — it is lost. -/
theorem lost_worker_witness (f : Nat → Val) :
    ∃ s, run (Par.step 1 f) (Par.init [.idle] 1) lostSchedule = some s ∧
      s.pc = .ret ∧ s.res = [some (f 0)] ∧ s.ws = [.notify] ∧ ∀ l, Par.step 1 f s l = none := by
  refine ⟨{ cmdI := 1, pc := .ret, ctr := 0, ws := [.notify], res := [some (f 0)] }, rfl, rfl, rfl, rfl, ?_⟩
  intro l
  cases l with
  | cmd w => rfl
  | write w => cases w <;> rfl
  | dec w => cases w <;> rfl
  | notify w => cases w <;> rfl
  | load => rfl

/-- the next call on that pool deadlocks at once (nobody will ever receive the command) -/
theorem lost_worker_then_deadlock (f : Nat → Val) (n : Nat) (l : Par.Label) :
    Par.step (n + 1) f (Par.init (Par.carry [.notify]) (n + 1)) l = none := by
  cases l with
  | cmd w => cases w <;> simp [Par.step, Par.init, Par.carry]
  | write w => cases w <;> rfl
  | dec w => cases w <;> rfl
  | notify w => cases w <;> rfl
  | load => simp [Par.step, Par.init]

/-- two workers, two tasks: both workers are lost in ONE call (the "8 × 8 instant tasks" pattern) -/
def lostSchedule2 : List Par.Label := [.cmd 0, .cmd 1, .write 0, .write 1, .dec 0, .dec 1, .load]

theorem lost_two_workers_witness (f : Nat → Val) :
    ∃ s, run (Par.step 2 f) (Par.init [.idle, .idle] 2) lostSchedule2 = some s ∧
      s.pc = .ret ∧ s.res = [some (f 0), some (f 1)] ∧ s.ws = [.notify, .notify] :=
  ⟨{ cmdI := 2, pc := .ret, ctr := 0, ws := [.notify, .notify], res := [some (f 0), some (f 1)] }, rfl, rfl, rfl, rfl⟩

/-- W = 1, n = 1: the worker decrements the counter BEFORE it writes the result; the caller's load
    sees 0 in between. -/
def searchNilSchedule (v : Val) : List Search.Label := [.cmd 0, .load 0, .eval 0 (some v), .dec 0, .cload]

/-- pool.go before the repair: Search(1, f) returns a slice whose only slot is still nil. -/
theorem search_nil_result_witness (v : Val) :
    ∃ s, run Search.step (Search.init [.idle] 1) (searchNilSchedule v) = some s ∧
      s.pc = .ret ∧ s.res = [none] ∧ s.ws = [.write 0 v] :=
  ⟨{ cmdI := 1, pc := .ret, ctr := 0, ws := [.write 0 v], res := [none] }, rfl, rfl, rfl, rfl⟩

/-- … and that worker then blocks for ever in its notification send as well. -/
theorem search_lost_worker_witness (v : Val) :
    ∃ s, run Search.step (Search.init [.idle] 1) (searchNilSchedule v ++ [.write 0]) = some s ∧
      s.pc = .ret ∧ s.ws = [.notify] ∧ ∀ l, Search.step s l = none := by
  refine ⟨{ cmdI := 1, pc := .ret, ctr := 0, ws := [.notify], res := [some v] }, rfl, rfl, rfl, ?_⟩
  intro l
  cases l with
  | cmd w => rfl
  | load w => cases w <;> rfl
  | eval w r => cases w <;> rfl
  | dec w => cases w <;> rfl
  | write w => cases w <;> rfl
  | notify w => cases w <;> rfl
  | cload => rfl

/-- the repaired system rejects the losing schedule: the caller cannot return before the
    notification (the `ret` step is not enabled after command and write) -/
example (f : Nat → Val) : run (Fixed.Par.step 1 f) (Fixed.Par.init (idlePar 1) 1) [.cmd 0, .write 0, .ret] = none := rfl

/-! ### Generated-table obligations: the skeleton of pool.go that `Pool.Fixed.*` transcribes.
    The skeleton of pool.go before /repo commit 38019e1, for comparison:
      worker       = ["0|range commands", "1|if c.search", "2|call workerSearch(c.results, c.ctrChanged, c.f, c.ctr)", "1|else",
                      "2|write c.results[c.i] = c.f(c.i)", "2|atomic atomic.AddInt64(c.ctr, -1)", "2|send c.ctrChanged <- struct{}{}"]
      workerSearch = ["0|for ; atomic.LoadInt64(ctr) > 0;", "1|call res := f(0)", "1|if res == nil", "2|continue",
                      "1|atomic i := atomic.AddInt64(ctr, -1)", "1|if i >= 0", "2|write results[i] = res", "1|send ctrChanged <- struct{}{}"]
      parallelize  = [… "0|init ctr := int64(count)", "0|make ctrChanged := make(chan struct{})", "0|init cmdI := 0", "0|for ; cmdI < count;", "1|select",
                      "2|case send p.commands <- cmd", "3|incr cmdI++", "2|case recv <-ctrChanged",
                      "0|for ; atomic.LoadInt64(&ctr) > 0;", "1|recv <-ctrChanged", "0|return results"]
      search       = the same with `cmdI < p.workerCount`
    (`Pool.Par` / `Pool.Search` transcribe those.) -/

/-- worker: receive a command, run it, then exactly ONE notification send per command
    (`Fixed.Par.W`: idle → got i → notify → idle; `Fixed.Search.W`: idle → load … → done → idle) -/
theorem gen_worker :
    MpsGen.Pool.worker =
      ["0|range commands", "1|if c.search", "2|call workerSearch(c.results, c.f, c.ctr)", "1|else",
       "2|write c.results[c.i] = c.f(c.i)", "1|send c.ctrChanged <- struct{}{}"] := rfl

/-- workerSearch: load, evaluate, (nil ⇒ continue), decrement, guarded write; no channel operation -/
theorem gen_workerSearch :
    MpsGen.Pool.workerSearch =
      ["0|for ; atomic.LoadInt64(ctr) > 0;", "1|call res := f(0)", "1|if res == nil", "2|continue",
       "1|atomic i := atomic.AddInt64(ctr, -1)", "1|if i >= 0", "2|write results[i] = res"] := rfl

/-- Parallelize: select loop (send command / receive notification, counting both), then receive
    until as many notifications as commands; unbuffered notification channel; no counter polling -/
theorem gen_parallelize :
    MpsGen.Pool.parallelize =
      ["0|if p == nil", "1|return parallelizeAlone(f, count)", "0|make results := make([]interface{}, count)",
       "0|make ctrChanged := make(chan struct{})", "0|init cmdI, done := 0, 0", "0|for ; cmdI < count;", "1|select",
       "2|case send p.commands <- cmd", "3|incr cmdI++", "2|case recv <-ctrChanged", "3|incr done++",
       "0|for ; done < count;", "1|recv <-ctrChanged", "1|incr done++", "0|return results"] := rfl

theorem gen_search :
    MpsGen.Pool.search =
      ["0|if p == nil", "1|return searchAlone(f, count)", "0|make results := make([]interface{}, count)",
       "0|init ctr := int64(count)", "0|make ctrChanged := make(chan struct{})", "0|init cmdI, done := 0, 0",
       "0|for ; cmdI < p.workerCount;", "1|select", "2|case send p.commands <- cmd", "3|incr cmdI++",
       "2|case recv <-ctrChanged", "3|incr done++", "0|for ; done < p.workerCount;", "1|recv <-ctrChanged",
       "1|incr done++", "0|return results"] := rfl

/-- the nil-pool loops, the unbuffered command channel and the worker start-up -/
theorem gen_alone_and_newPool :
    MpsGen.Pool.parallelizeAlone =
      ["0|make results := make([]interface{}, count)", "0|for i := 0; i < len(results); i++",
       "1|write results[i] = f(i)", "0|return results"] ∧
    MpsGen.Pool.searchAlone =
      ["0|make results := make([]interface{}, count)", "0|for i := 0; i < len(results); i++",
       "1|write results[i] = nil", "1|for ; results[i] == nil; results[i] = f()", "0|return results"] ∧
    MpsGen.Pool.newPool =
      ["0|if count <= 0", "0|make p.commands = make(chan command)", "0|for i := 0; i < count; i++",
       "1|go worker(p.commands)", "0|return &p"] ∧
    MpsGen.Pool.commandFields =
      ["search bool", "ctr *int64", "ctrChanged chan<- struct{}", "i int", "f func(int) interface{}",
       "results []interface{}"] ∧
    MpsGen.Pool.uses = ["pkg/math/sample/prime.go: pl.Search(2, …)"] :=
  ⟨rfl, rfl, rfl, rfl, rfl⟩

/-- the stream of a prime search is read through ONE pool.LockedReader: `Read` is lock / deferred unlock / one Read of the
    wrapped reader, and sample.Paillier makes the locked reader BEFORE the search, outside the closure the workers run
    (what `Readers.serve` models: the workers' reads are serialised) -/
theorem gen_locked_reader :
    MpsGen.Pool.lockedRead = ["r.m.Lock()", "defer r.m.Unlock()", "return r.reader.Read(p)"] ∧
    MpsGen.Pool.paillierSearch =
      ["if hp, hq, ok := paillierPrimeHook(); ok {", "return hp, hq", "}",
       "reader := pool.NewLockedReader(rand)",
       "results := pl.Search(2, func() interface{} { q := tryBlumPrime(reader) if q == nil { return nil } return q })",
       "p, q = results[0].(*saferith.Nat), results[1].(*saferith.Nat)", "return"] :=
  ⟨rfl, rfl⟩

/-- the yield points (hook H2) sit where the correspondence suite expects them (repaired code; or
    the code before the repair with hooks/pool_hooks.diff applied) — or are absent -/
theorem gen_yield_points :
    MpsGen.Pool.yieldPoints = [] ∨
    MpsGen.Pool.yieldPoints =
      ["worker.idle", "worker.gotCmd", "worker.beforeDec", "worker.beforeNotify", "worker.idle",
       "workerSearch.beforeLoad", "workerSearch.beforeEval", "workerSearch.beforeLoad", "workerSearch.beforeDec",
       "workerSearch.beforeWrite", "workerSearch.beforeNotify", "workerSearch.beforeLoad",
       "Parallelize.beforeSelect", "Parallelize.sent", "Parallelize.notified", "Parallelize.beforeLoad",
       "Parallelize.beforeRecv", "Parallelize.beforeLoad", "Parallelize.return",
       "Search.beforeSelect", "Search.sent", "Search.notified", "Search.beforeLoad", "Search.beforeRecv",
       "Search.beforeLoad", "Search.return"] ∨
    MpsGen.Pool.yieldPoints =
      ["worker.idle", "worker.gotCmd", "worker.beforeNotify", "worker.idle",
       "workerSearch.beforeLoad", "workerSearch.beforeEval", "workerSearch.beforeLoad", "workerSearch.beforeDec",
       "workerSearch.beforeWrite", "workerSearch.beforeLoad",
       "Parallelize.beforeSelect", "Parallelize.sent", "Parallelize.notified", "Parallelize.beforeRecv", "Parallelize.return",
       "Search.beforeSelect", "Search.sent", "Search.notified", "Search.beforeRecv", "Search.return"] := by
  first | exact .inl rfl | exact .inr (.inl rfl) | exact .inr (.inr rfl)

/-- a complete run of the repaired Parallelize with two workers and three tasks (worker 0 is reused) -/
def demoPar : List Fixed.Par.Label :=
  [.cmd 0, .cmd 1, .write 1, .write 0, .notify 0, .cmd 0, .notify 1, .write 0, .notify 0, .ret]

example : (run (Fixed.Par.step 3 (· + 10)) (Fixed.Par.init (idlePar 2) 3) demoPar).map (·.ret) = some true := by decide
example : (run (Fixed.Par.step 3 (· + 10)) (Fixed.Par.init (idlePar 2) 3) demoPar).map (·.res) =
    some [some 10, some 11, some 12] := by decide
example : demoPar.length = 3 * 3 + 1 := rfl   -- the bound of `steps_bounded` is attained

/-- a complete run of the repaired Search (two workers, one result wanted; one nil answer, one over-find) -/
def demoSearch : List Fixed.Search.Label :=
  [.cmd 0, .load 0, .cmd 1, .load 1, .eval 0 none, .eval 1 (some 5), .load 0, .eval 0 (some 6), .dec 1, .dec 0,
   .write 0, .write 1, .load 0, .load 1, .notify 1, .notify 0, .ret]

example : (run Fixed.Search.step (Fixed.Search.init (idleSearch 2) 1) demoSearch).map (fun s => (s.ret, s.res, s.ctr)) =
    some (true, [some 5], -1) := by decide
example : Fixed.Search.answersOk (fun v => v = 5 ∨ v = 6) demoSearch := by simp [demoSearch, Fixed.Search.answersOk]
example : (run (Fixed.Par.step 0 id) (Fixed.Par.init (idlePar 1) 0) [.ret]).map (·.ret) = some true := by decide
/-- a non-returned reachable state (hypothesis of `no_deadlock`) -/
example : (run (Fixed.Par.step 1 id) (Fixed.Par.init (idlePar 1) 1) [.cmd 0]).map (·.ret) = some false := by decide
example : Available 2 2 := .fresh
example : searchAlone [none, some 3, none, some 4, some 5] 2 = some [some 3, some 4] := by decide

end Mps.C18
