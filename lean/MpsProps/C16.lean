import MpsProps.Anchors.C16
import MpsProofs.Sig
import MpsProofs.SigBytes
import MpsGen.Sig
import Mps.SigVariant
import Mathlib.Tactic.Linarith
import Mathlib.Tactic.NormNum
import Mathlib.Algebra.Order.Field.Rat
import Mathlib.Algebra.Order.AbsoluteValue.Basic
/-
  C16 — Stand-alone signature primitives conform to their standards.
  Property theorems only (lemmas: MpsProofs/Sig.lean — algebra over a lawful record of
  operations —, MpsProofs/SigBytes.lean — byte level).

  Three functions have two models (`Mps/SigVariant.lean`): without and with a check the standard demands.
  For the model WITHOUT the check the full-strength statement is false; it is then stated in a comment,
  the provable part is named `…_partial`, and the NEGATION is proved with a kernel-decided witness
  (`…_not_strict`, `…_unchecked`, `…_highx`). `decodeGo` and `Bip340.verifyGo` are /repo before fix aefee99 and
  fix 8022d4f; `sigEthereumGo` is /repo as it is (known finding), and suite `sig` reproduces its witness there.
-/
namespace Mps.C16
open Mps Mps.Secp Mps.Sig

section algebra
variable {F G : Type} [DecidableEq F] [DecidableEq G]

/-- The model of `ecdsa.Signature.Verify` accepts exactly when r ≠ 0, s ≠ 0 and
    s⁻¹·(m·G + r·X) = R with r = x(R) — for ANY record of operations (no law is needed: the code
    computes the standard equation literally). -/
theorem ecdsa_verify_iff (O : Ops F G) (X : G) (m : F) (R : G) (s : F) :
    verifyGoO O X m R s = true ↔
      (O.xs R ≠ O.fzero ∧ s ≠ O.fzero ∧
        O.smul (O.finv s) (O.gadd (O.smul m O.gen) (O.smul (O.xs R) X)) = R) :=
  verifyGoO_iff O X m R s

variable [Field F] [AddCommGroup G] [Module F G] (gen : G) (xs : G → F) (evenY : G → Bool)

/-- A signature produced by the textbook signing equation verifies (k ≠ 0, r ≠ 0, s ≠ 0: the
    cases in which signing restarts). -/
theorem ecdsa_sign_verify (x k m : F) (hk : k ≠ 0)
    (hr : xs (k • gen) ≠ 0) (hs : k⁻¹ * (m + xs (k • gen) * x) ≠ 0) :
    verifyGoO (lawful gen xs evenY) (x • gen) m (ecdsaSignO (lawful gen xs evenY) x k m).1
      (ecdsaSignO (lawful gen xs evenY) x k m).2 = true := by
  have e1 : (ecdsaSignO (lawful gen xs evenY) x k m).1 = k • gen := rfl
  have e2 : (ecdsaSignO (lawful gen xs evenY) x k m).2 = k⁻¹ * (m + xs (k • gen) * x) := rfl
  rw [e1, e2, valid_iff]
  refine ⟨hr, hs, ?_⟩
  rw [smul_smul, ← add_smul, smul_smul, mul_right_comm, inv_mul_cancel₀ hk, one_mul]

/-- (R, s) accepted ⇒ the textbook verifier accepts (r, s) with r = x(R) … -/
theorem ecdsa_rs_of_valid (hx0 : xs 0 = 0) (X : G) (m : F) (R : G) (s : F)
    (h : verifyGoO (lawful gen xs evenY) X m R s = true) :
    ecdsaVerifyRSO (lawful gen xs evenY) X m (xs R) s = true := by
  obtain ⟨hr, hs, he⟩ := (valid_iff gen xs evenY X m R s).1 h
  rw [rs_iff, (inv_smul_eq_iff₀ hs).2 he]
  exact ⟨hr, hs, fun h0 => hr (by rw [h0, hx0]), rfl⟩

/-- … and every textbook-valid (r, s) is accepted in the (R, s) format for the recomputed R. -/
theorem ecdsa_valid_of_rs (X : G) (m r s : F) (h : ecdsaVerifyRSO (lawful gen xs evenY) X m r s = true) :
    ∃ R, xs R = r ∧ verifyGoO (lawful gen xs evenY) X m R s = true := by
  obtain ⟨hr, hs, -, hx⟩ := (rs_iff gen xs evenY X m r s).1 h
  refine ⟨s⁻¹ • (m • gen + r • X), hx, ?_⟩
  rw [valid_iff, hx, smul_inv_smul₀ hs]
  exact ⟨hr, hs, rfl⟩

/-- (−R, −s) is valid iff (R, s) is: what `SigEthereum` does to the CALLER's signature keeps it valid. -/
theorem neg_pair_valid_iff (hx : ∀ P, xs (-P) = xs P) (X : G) (m : F) (R : G) (s : F) :
    verifyGoO (lawful gen xs evenY) X m (-R) (-s) = verifyGoO (lawful gen xs evenY) X m R s := by
  rw [Bool.eq_iff_iff, valid_iff, valid_iff, hx, neg_smul_neg, neg_ne_zero]

/-- low-s normalisation (for any notion of "high") keeps validity -/
theorem eth_low_s (hx : ∀ P, xs (-P) = xs P) (high : F → Bool) (X : G) (m : F) (R : G) (s : F) :
    verifyGoO (lawful gen xs evenY) X m (ethNormalizeO (lawful gen xs evenY) high R s).1
      (ethNormalizeO (lawful gen xs evenY) high R s).2 = verifyGoO (lawful gen xs evenY) X m R s := by
  unfold ethNormalizeO
  split
  · exact neg_pair_valid_iff gen xs evenY hx X m R s
  · rfl

/-- standard recovery Q = r⁻¹(s·R − m·G) returns the signing key of every valid signature … -/
theorem eth_recover (X : G) (m : F) (R : G) (s : F) (h : verifyGoO (lawful gen xs evenY) X m R s = true) :
    recoverO (lawful gen xs evenY) m R s = X := by
  obtain ⟨hr, -, he⟩ := (valid_iff gen xs evenY X m R s).1 h
  show (xs R)⁻¹ • (s • R + -(m • gen)) = X
  rw [← he, add_neg_cancel_comm, inv_smul_smul₀ hr]

/-- … and only of valid ones: (R, s) with r, s ≠ 0 is valid for X iff recovery returns X. -/
theorem eth_recover_iff (X : G) (m : F) (R : G) (s : F) (hr : xs R ≠ 0) (hs : s ≠ 0) :
    verifyGoO (lawful gen xs evenY) X m R s = true ↔ recoverO (lawful gen xs evenY) m R s = X := by
  refine ⟨eth_recover gen xs evenY X m R s, fun h => ?_⟩
  rw [valid_iff, ← h]
  refine ⟨hr, hs, ?_⟩
  show m • gen + xs R • ((xs R)⁻¹ • (s • R + -(m • gen))) = s • R
  rw [smul_inv_smul₀ hr, add_add_neg_cancel'_right]

-- `[DecidableEq F]` of the `variable` line is an argument of this theorem although nothing in it needs it
set_option linter.unusedSectionVars false in
/-- Signatures made by BIP-340 default signing verify under the x-only public key, in every
    group with a parity predicate `evenY` flipping under negation, an even-`lift` and a
    negation-invariant x coordinate; any challenge function. -/
theorem bip340_sign_verify {X M : Type} [DecidableEq X] (xc : G → X) (lift : X → Option G)
    (chal : X → X → M → F) (hgen : gen ≠ 0)
    (hpar : ∀ P : G, P ≠ 0 → evenY (-P) = !evenY P) (hxc : ∀ P : G, xc (-P) = xc P)
    (hlift : ∀ P : G, P ≠ 0 → evenY P = true → lift (xc P) = some P)
    (d' k' : F) (hd : d' ≠ 0) (hk : k' ≠ 0) (m : M) :
    schnorrVerifyO (lawful gen xs evenY) xc lift chal (xc (d' • gen)) m
      (schnorrSignO (lawful gen xs evenY) xc chal d' k' m).1
      (schnorrSignO (lawful gen xs evenY) xc chal d' k' m).2 = true := by
  obtain ⟨hdx, hde, hd0⟩ := even_rep gen evenY xc hpar hxc d' (smul_ne_zero_of hd hgen)
  obtain ⟨hkx, hke, hk0⟩ := even_rep gen evenY xc hpar hxc k' (smul_ne_zero_of hk hgen)
  have h := schnorrVerifyO_of_eq gen xs evenY xc lift chal hlift hd0 hde hk0 hke m _
    (by rw [add_comm, ← mul_smul, ← add_smul])
  rwa [hdx, hkx] at h

end algebra

/-- `curve.FromHash` (truncate to 32 bytes, shift, reduce) is the SEC 1 / OpenSSL bits2int
    conversion for hashes of ANY length. -/
theorem from_hash_conforms (h : Bytes) : fromHashGo h = fromHash h := fromHashGo_eq h

/-- on secp256k1: the model of `Signature.Verify` on a hash of any length is the standard
    equation on the SEC 1 message scalar -/
theorem ecdsa_verify_iff_secp (X : Pt) (h : Bytes) (R : Pt) (s : Nat) (hs : s < n) :
    verifyGo X h R s = ecdsaVerifySpec X (fromHash h) R s := by
  unfold verifyGo ecdsaVerifySpec
  rw [verifyGoO_eq_spec, fromHashGo_eq]
  simp [hs]

/-!  `decodeGo bs = decodeStrict bs` (accepted = {02,03} ‖ x on the curve) is FALSE: `decodeGo` is the decoder
     without the prefix check (/repo before fix aefee99). What holds of it: -/

/-- every strictly valid encoding is accepted with the same result, and everything accepted is
    a 33-byte string that the strict decoder accepts once the prefix is replaced by 03 (if it was
    03) or by 02 (ANY other byte) -/
theorem point_decode_strict_partial (bs : Bytes) (P : Pt) :
    (decodeStrict bs = some P → decodeGo bs = some P) ∧
    (decodeGo bs = some P → ∃ pre rest, bs = pre :: rest ∧ rest.length = 32 ∧
        decodeStrict ((if pre = 3 then 3 else 2) :: rest) = some P) :=
  ⟨decodeStrict_imp_decodeGo bs P, decodeGo_char bs P⟩

/-- the defect of `decodeGo`, for all inputs: the prefix byte is only compared with 3 -/
theorem point_decode_prefix_ignored (pre : UInt8) (rest : Bytes) (h : pre ≠ 3) :
    decodeGo (pre :: rest) = decodeGo (2 :: rest) := by
  rw [decodeGo_cons, decodeGo_cons, if_neg h, if_neg (by decide)]

/-- NEGATION of `decodeGo bs = decodeStrict bs`, kernel-decided witness: 07 ‖ x(G) decodes to G -/
theorem point_decode_not_strict :
    decodeGo (0x07 :: xBytes G) = some G ∧ decodeStrict (0x07 :: xBytes G) = none ∧
    decodeGo (0x00 :: xBytes G) = some G ∧ decodeGo (0x04 :: xBytes G) = some G := by decide +kernel

/-- the decoder with the prefix check IS the strict decoder -/
theorem point_decode_strict_fixed (bs : Bytes) : decodeFixed bs = decodeStrict bs := decodeFixed_eq_strict bs

/-!  `Bip340.verifyGo pk m sig = Bip340.verify pk m sig` for ALL byte strings pk is FALSE: `verifyGo` is `Verify`
     over a `LiftX` without length check (/repo before fix 8022d4f). What holds of it: -/

/-- for public keys of the right length (32 bytes) the model of `PublicKey.Verify` IS the BIP-340
    verification algorithm: wrong signature lengths, r ≥ p, s ≥ n, x(P) ≥ p or not on the curve,
    infinite R, odd-Y R and x(R) ≠ r are all rejected, everything else accepted -/
theorem bip340_verify_iff_spec_partial (pk m sig : Bytes) (hpk : pk.length = 32) :
    Bip340.verifyGo pk m sig = Bip340.verify pk m sig := bip340_verifyGo_eq_verify pk m sig hpk

/-- NEGATION of `Bip340.verifyGo pk m sig = Bip340.verify pk m sig` (`LiftX` without length check),
    kernel-decided witness: a 33-byte "public key" is accepted (its first 32 bytes are used as x,
    all 33 are hashed into the challenge); BIP-340 public keys are 32 bytes. -/
theorem bip340_verify_pklen_unchecked :
    let pk := Bip340.hexB "14020d4f9ff162d3bde73602d895e832837062fcbe28d15f0edf9bdc066e871580"
    let m := Bip340.hexB "c9ee948e28828eaf3b3c87d3bfd495477b403da54f1418a15ace0d4d0df68f6a8f"
    let sig := Bip340.hexB "676ade7854a4aca9d8980209e7bb94e63ccb91a179c84b2c368a65b71f9c915c0938fd07340c1318ca64b34e4ebf8732678c163f09b2403232d9d262a1334e9f"
    pk.length = 33 ∧ Bip340.verifyGo pk m sig = true ∧ Bip340.verify pk m sig = false := by
  decide +kernel

/-- NEGATION of "the Ethereum export of every valid signature recovers the signing key",
    kernel-decided witness: a valid signature whose nonce point has x ≥ n. `SigEthereum` writes
    x(R) itself (≥ n) where the standard has r = x(R) mod n and recovery-id bit 1 set; standard
    recovery refuses r ≥ n. (Reachable only with a crafted key or with probability ≈ 2⁻¹²⁸.) -/
theorem eth_export_highx :
    let X := (decodeStrict (Bip340.hexB "02bcf1a01181f4ec9d4eabe215596f2514035de3c79c411fea6f9aab2cce21e726")).getD .inf
    let R := (decodeStrict (Bip340.hexB "03fffffffffffffffffffffffffffffffebaaedce6af48a03bbfd25e8cd03642ff")).getD .inf
    let s := 0xa14ad6c30b56247eab28197fe617e5f88afa5cbe003c63d423647ad3042626fa
    let h : Bytes := List.replicate 32 0
    verifyGo X h R s = true ∧ ecdsaVerifySpec X (fromHash h) R s = true ∧
    ((sigEthereumGo R s).1.map fun e => ecrecover (fromHash h) e == none) = some true ∧
    ((ethExportSpec R s).map fun e => ethLowS e && ecrecover (fromHash h) e == some X) = some true := by
  intro X R s h
  -- the model of `Verify` is the specification (`ecdsa_verify_iff_secp`): one evaluation serves both
  have hk : ecdsaVerifySpec X (fromHash h) R s = true ∧
      ((sigEthereumGo R s).1.map fun e => ecrecover (fromHash h) e == none) = some true ∧
      ((ethExportSpec R s).map fun e => ethLowS e && ecrecover (fromHash h) e == some X) = some true := by
    decide +kernel
  exact ⟨(ecdsa_verify_iff_secp X h R s (by decide)).trans hk.1, hk⟩

/-! The working tree. `Variant.*` is read off the regenerated tables; a hypothesis `Variant.… = true` says that
  /repo has the check. -/

/-- `point_decode_strict` for the decoder the driver runs against the working tree -/
theorem point_decode_strict (h : Variant.strictPrefix = true) (bs : Bytes) :
    Variant.decodeCur bs = decodeStrict bs := by
  unfold Variant.decodeCur; rw [h]; exact decodeFixed_eq_strict bs

/-- `bip340_verify_iff_spec` for the working tree: with the length check in `LiftX`, the model of
    `PublicKey.Verify` is BIP-340 verification on ALL inputs -/
theorem bip340_verify_iff_spec (h : Variant.liftXLen = true) (pk m sig : Bytes) :
    Variant.bipVerifyCur pk m sig = Bip340.verify pk m sig := by
  unfold Variant.bipVerifyCur Bip340.verifyFixed; rw [h]
  by_cases hl : pk.length = 32
  · simp [hl, bip340_verifyGo_eq_verify pk m sig hl]
  · simp [hl, Bip340.verify]

/-- `sigEthereumFixed` (hooks/ecdsa-sigethereum-reduce-r.diff; any point decoder) writes exactly the standard export
    r ‖ s ‖ v with r = x(R) mod n, low s and the full recovery id -/
theorem eth_export_fixed_conforms (dec : Bytes → Option Pt) (x y s : Nat) (hx : x < 256 ^ 32) (hs0 : 0 < s)
    (hsn : s < n) (e : Bytes) (h : (sigEthereumFixed dec (.aff x y) s).1 = some e) :
    ethExportSpec (.aff x y) s = some e := ethFixed_conforms dec x y s hx hs0 hsn e h

/-- `Secp256k1Point.UnmarshalBinary` is one of the two shapes the driver has a model for: without the prefix
    check (`decodeGo`: length 33; x ≥ p refused; `DecompressY(x, data[0] == 3)`) or with it, as in
    hooks/secp256k1-strict-prefix.diff (`decodeFixed`: additionally data[0] ∈ {2, 3}). The driver
    selects the model by the same comparison (`Variant.strictPrefix`). -/
theorem gen_point_unmarshal :
    MpsGen.Sig.pointUnmarshal = Variant.pointUnmarshalShipped ∨
    MpsGen.Sig.pointUnmarshal = Variant.pointUnmarshalFixed := by
  first | exact .inl rfl | exact .inr rfl

theorem gen_point_marshal : MpsGen.Sig.pointMarshal =
    ["make([]byte, 33)", "v.ToAffine()", "v.Y.IsOddBit()", "v.X.Bytes()", "copy(out[1:], data[:])"] := rfl

theorem gen_scalar_unmarshal : MpsGen.Sig.scalarUnmarshal =
    [ "len(data) != 32 => fmt.Errorf(\"invalid length for secp256k1 scalar: %d\", len(data))",
      "s.value.SetBytes(&exactData) != 0 => errors.New(\"invalid bytes for secp256k1 scalar\")",
      "s.value.SetBytes(&exactData)" ] := rfl

/-- `LiftX`: without length check (the slice goes to `SetByteSlice` unchecked; model `pk.take 32`) or with it, as
    in hooks/secp256k1-liftx-length.diff (32 bytes required; model `Bip340.verifyFixed`) -/
theorem gen_liftx :
    MpsGen.Sig.liftX = Variant.liftXShipped ∨ MpsGen.Sig.liftX = Variant.liftXFixed := by
  first | exact .inl rfl | exact .inr rfl

theorem gen_point_queries :
    MpsGen.Sig.xScalar = ["p.value.ToAffine()", "out.value.SetBytes(p.value.X.Bytes())", "p.value.X.Bytes()"] ∧
    MpsGen.Sig.hasEvenY = ["p.value.ToAffine()", "p.value.Y.IsOdd()", "!p.value.Y.IsOdd()"] ∧
    MpsGen.Sig.isIdentity = ["p == nil || (p.value.X.IsZero() && p.value.Y.IsZero()) || p.value.Z.IsZero()"] :=
  ⟨rfl, rfl, rfl⟩

theorem gen_from_hash : MpsGen.Sig.fromHash =
    [ "group.Order()", "order.BitLen()", "len(h)", "new(saferith.Nat).SetBytes(h)", "len(h)",
      "if excess > 0: s.Rsh(s, uint(excess), -1)", "group.NewScalar().SetNat(s)" ] := rfl

/-- `Signature.Verify`, the statements `verifyGoO` transcribes -/
theorem gen_ecdsa_verify : MpsGen.Sig.ecdsaVerify =
    [ "r.IsZero() || sig.S.IsZero() => false",
      "sig.R.XScalar()", "curve.FromHash(group, hash)", "group.NewScalar().Set(sig.S).Invert()",
      "m.ActOnBase()", "r.Act(X)", "mG.Add(rX)", "sInv.Act(R2)", "R2.Equal(sig.R)",
      "false", "R2.Equal(sig.R)" ] := rfl

/-- `Signature.SigEthereum`: the statements `sigEthereumGoWith` transcribes or those of
    `sigEthereumFixed` (with hooks/ecdsa-sigethereum-reduce-r.diff); in both the receiver is a struct
    value over interface fields (the caller's signature is mutated) -/
theorem gen_sig_ethereum :
    ((MpsGen.Sig.sigEthereum, MpsGen.Sig.sigEthereumAssigns) = Variant.sigEthereumShipped ∨
     (MpsGen.Sig.sigEthereum, MpsGen.Sig.sigEthereumAssigns) = Variant.sigEthereumFixedTable) ∧
    MpsGen.Sig.sigEthereumReceiver = ["recv Signature", "R curve.Point", "S curve.Scalar"] :=
  ⟨by decide, rfl⟩

theorem gen_tagged_hash : MpsGen.Sig.taggedHash =
    [ "sha256.Sum256([]byte(tag))", "sha256.New()", "h.Write(tagSum[:])", "h.Write(tagSum[:])",
      "h.Write(data)", "h.Sum(nil)" ] := rfl

/-- `PublicKey.Verify`: of the lengths only that of the signature is checked here; `pk` goes to `LiftX` and, as
    given, into the challenge hash -/
theorem gen_taproot_verify :
    MpsGen.Sig.taprootVerify =
      [ "len(sig) != SignatureLen => false", "err != nil => false",
        "err := s.UnmarshalBinary(sig[32:]); err != nil => false",
        "check.IsIdentity() => false", "!check.HasEvenY() => false",
        "curve.Secp256k1{}.LiftX(pk)", "s.UnmarshalBinary(sig[32:])", "e.UnmarshalBinary(eHash)",
        "s.ActOnBase()", "R.Sub(e.Act(P))", "e.Act(P)", "check.IsIdentity()", "check.HasEvenY()",
        "bytes.Equal(check.XBytes(), sig[:32])", "check.XBytes()",
        "false", "false", "false", "false", "false", "bytes.Equal(check.XBytes(), sig[:32])" ] ∧
    MpsGen.Sig.taprootVerifyHashes = ["\"BIP0340/challenge\"", "sig[:32]", "pk", "m"] ∧
    MpsGen.Sig.taprootConsts = ["SecretKeyLength = 32", "SignatureLen = 64"] :=
  ⟨rfl, rfl, rfl⟩

theorem gen_taproot_public : MpsGen.Sig.taprootPublic =
    [ "err := scalar.UnmarshalBinary(s); err != nil || scalar.IsZero() => nil, fmt.Errorf(\"invalid secret key\")",
      "scalar.UnmarshalBinary(s)", "scalar.IsZero()", "scalar.ActOnBase()", "point.XBytes()" ] := rfl

/-- `SecretKey.Sign`: the hashes and their argument order (shared with C11) -/
theorem gen_taproot_sign_hashes : MpsGen.Sig.taprootSignHashes =
    ["\"BIP0340/aux\"", "a", "\"BIP0340/nonce\"", "t[:]", "PBytes", "m",
     "\"BIP0340/challenge\"", "RBytes", "PBytes", "m"] := rfl

/-- a lawful instance exists and meets every hypothesis used above: F = G = ℚ, generator 1,
    x-coordinate |·|, "even" = non-negative -/
example : ∃ (gen : ℚ) (xs : ℚ → ℚ) (evenY : ℚ → Bool) (xc : ℚ → ℚ) (lift : ℚ → Option ℚ),
    gen ≠ 0 ∧ xs 0 = 0 ∧ (∀ P, xs (-P) = xs P) ∧ (∀ P : ℚ, P ≠ 0 → evenY (-P) = !evenY P) ∧
    (∀ P, xc (-P) = xc P) ∧ (∀ P : ℚ, P ≠ 0 → evenY P = true → lift (xc P) = some P) := by
  refine ⟨1, fun P => |P|, fun P => decide (0 ≤ P), fun P => |P|, fun x => some x, one_ne_zero, by simp,
    fun P => abs_neg P, ?_, fun P => abs_neg P, ?_⟩
  · intro P hP
    rcases lt_or_gt_of_ne hP with h | h
    · have h1 : ¬ (0 ≤ P) := not_le.mpr h
      have h2 : 0 ≤ -P := by linarith
      simp [h1, h2]
    · have h1 : 0 ≤ P := le_of_lt h
      have h2 : ¬ (0 ≤ -P) := by intro h3; linarith
      simp [h1, h2]
  · intro P _ hE
    have : 0 ≤ P := by simpa using hE
    simp [abs_of_nonneg this]

/-- the hypotheses of `ecdsa_sign_verify` in that instance: x = 2, k = 3, m = 5 (r = 3, s = 11/3) -/
example : (3 : ℚ) ≠ 0 ∧ |(3 : ℚ) • (1 : ℚ)| ≠ 0 ∧ (3 : ℚ)⁻¹ * (5 + |(3 : ℚ) • (1 : ℚ)| * 2) ≠ 0 := by
  simp; norm_num

/-- BIP-340 vectors 0–3 of test-vectors.csv (public key, signature with the given aux, verification)
    and the ECDSA self test, evaluated by the compiler (tests, not theorems) -/
example : True := trivial
#guard Bip340.selfTest
#guard Mps.Sig.selfTest

end Mps.C16
