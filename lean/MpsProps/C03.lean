import MpsProps.Anchors.C03
import Mps.Judge
import MpsProps.Src.SrcCmpKeygen
import MpsProps.Src.SrcCmpSign
import MpsProps.Src.SrcCmpPresign
import MpsProps.Src.SrcFrostKeygen
import MpsProps.Src.SrcFrostSign
import MpsProps.Src.SrcDoernerKeygen
import MpsProps.Src.SrcDoernerSign
import MpsProps.C01alg
import MpsProps.C02alg
import MpsProps.AlgGen
/-
  C03 — one import for the property: anchors and source tables; the theorems are those of MpsProps/C01alg.lean
  (share checks, uniqueness of the response for a fixed nonce point) and MpsProps/C02alg.lean (Feldman-checked sharings are consistent).
-/
