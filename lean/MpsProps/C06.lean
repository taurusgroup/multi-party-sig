import MpsProps.Anchors.C06
import MpsProofs.Echo
import MpsProps.HandlerSrc
import MpsProps.C06Byz
import MpsGen.Session
/-
  C06 — Equivocation on a broadcast round cannot split honest parties.
  Model: Mps.Handler (echo broadcast of pkg/protocol/handler.go: receivedAll / checkBroadcastHash).
-/
namespace Mps.C06
open Mps Mps.Handler

/-- `Message.Hash` covers every wire field: equal hash inputs, equal SSID, sender, recipient, protocol,
    round number, content bytes, broadcast flag and attached echo hash -/
theorem msg_hash_input_injective (m m' : Msg) (hm : MsgOk m) (hm' : MsgOk m')
    (h : msgHashItems m = msgHashItems m') : wire m = wire m' := msgHashItems_injective m m' hm hm' h

/-- equal echo hashes of a round: byte-identical views of every participant's broadcast, or a collision -/
theorem echo_hash_agree (H : Bytes → Bytes) (hH : ∀ x, (H x).length < 2 ^ 64) (sc : Script)
    (bc bc' : List (Nat × Bytes × Msg)) (r : Nat) (h : Bytes) (hs : ∀ i ∈ sc.sess, i.WF)
    (ok : ∀ e ∈ bc, MsgOk e.2.2) (ok' : ∀ e ∈ bc', MsgOk e.2.2)
    (e1 : echoHash H sc bc r = some h) (e2 : echoHash H sc bc' r = some h) :
    (∀ id ∈ sc.ids, ∃ m m', lookup bc r id = some m ∧ lookup bc' r id = some m' ∧ wire m = wire m') ∨
    (∃ x y : Bytes, x ≠ y ∧ H x = H y) :=
  (echoHash_agree_or H hH sc bc bc' r h hs ok ok' e1 e2).imp_right EchoCollision.collision

/-- a handler goes on into the next round only if every stored message of the round it leaves carries the local
    echo hash of the previous round number; the other ways out of a round through the protocol's Finalize (output,
    abort round, error) lie behind the same check (`finalizeStep_checked`) -/
theorem leaves_round_only_if_echo_ok (H : Bytes → Bytes) (s s' : State) (h : finalizeStep H s = .more s')
    (prev : Bytes) (hp : bhLookup (fillBh H s).bh ((fillBh H s).cur - 1) = some prev) :
    (∀ e ∈ (fillBh H s).msgs, e.1 = (fillBh H s).cur → e.2.2.bv.getD [] = prev) ∧
    (∀ e ∈ (fillBh H s).bc, e.1 = (fillBh H s).cur → e.2.2.bv.getD [] = prev) :=
  check_passes_imp_bv _ prev hp <| by
    rcases finalizeStep_checked H s with e | e | hc
    · rw [e] at h; cases h
    · rw [e] at h; cases h
    · exact hc

/-- `echo_agreement` with the collision named: it is one that A and B hold (`EchoCollision`) -/
theorem echo_agreement_or (H : Bytes → Bytes) (hH : ∀ x, (H x).length < 2 ^ 64) (scA scB : Script)
    (hids : scA.ids = scB.ids) (hsess : scA.sess = scB.sess) (hsw : ∀ i ∈ scA.sess, i.WF)
    (A B : State) (rA : Reach H scA A) (rB : Reach H scB B) (r : Nat) (hA hB : Bytes) (m : Msg)
    (wfA : ∀ e ∈ A.bc, MsgOk e.2.2) (wfB : ∀ e ∈ B.bc, MsgOk e.2.2)
    (hcur : A.cur = r + 1) (hbhA : bhLookup A.bh r = some hA) (hchk : checkBroadcastHash A = true)
    (hm : m ∈ B.out) (hmr : m.rnd = r + 1) (hbv : m.bv = some hB)
    (hst : (∃ f, (r + 1, f, m) ∈ A.msgs) ∨ (∃ f, (r + 1, f, m) ∈ A.bc)) :
    (∀ id ∈ scA.ids, ∃ ma mb, lookup A.bc r id = some ma ∧ lookup B.bc r id = some mb ∧ wire ma = wire mb) ∨
    EchoCollision H scA A.bc B.bc r := by
  -- B stamped m with its own echo hash of round r
  have hBb : bhLookup B.bh r = some hB := by
    have := reach_outBv H scB B rB m hm hB hbv
    rw [hmr] at this
    simpa using this
  -- A's check forces hA = hB
  have hprev : bhLookup A.bh (A.cur - 1) = some hA := by
    rw [hcur]; simpa using hbhA
  have hck := check_passes_imp_bv _ hA hprev hchk
  have heq : hB = hA := by
    rcases hst with ⟨f, hf⟩ | ⟨f, hf⟩
    · have := hck.1 _ hf (by simp [hcur])
      simpa [hbv] using this
    · have := hck.2 _ hf (by simp [hcur])
      simpa [hbv] using this
  subst heq
  -- both stored hashes are the hashes of the stored views
  have eA := reach_bhOk H scA A rA r hB hbhA
  have eB := reach_bhOk H scB B rB r hB hBb
  rw [reach_sc H scA A rA] at eA
  rw [reach_sc H scB B rB] at eB
  rw [echoHash_script_congr H scB scA _ r hids.symm hsess.symm] at eB
  exact echoHash_agree_or H hH scA _ _ r hB hsw wfA wfB eA eB

/-- Echo agreement, for ALL scripts and for EVERY state two handlers A and B of one session (same
    participants, same session hash state) can pass through — also in the middle of a call:
    suppose A is in round r+1 with the echo check of that round passing (the check every handler
    must pass before it can leave the round, see `leaves_round_only_if_echo_ok`), and A has stored a
    round-(r+1) message that B emitted, stamped with an echo hash. Then A and B hold byte-identical
    copies of every participant's round-r broadcast — or the two runs exhibit a collision of the hash
    function. Hence two honest parties that were sent different round-r payloads by an equivocator
    cannot both get past round r+1. -/
theorem echo_agreement (H : Bytes → Bytes) (hH : ∀ x, (H x).length < 2 ^ 64) (scA scB : Script)
    (hids : scA.ids = scB.ids) (hsess : scA.sess = scB.sess) (hsw : ∀ i ∈ scA.sess, i.WF)
    (A B : State) (rA : Reach H scA A) (rB : Reach H scB B) (r : Nat) (hA hB : Bytes) (m : Msg)
    (wfA : ∀ e ∈ A.bc, MsgOk e.2.2) (wfB : ∀ e ∈ B.bc, MsgOk e.2.2)
    (hcur : A.cur = r + 1) (hbhA : bhLookup A.bh r = some hA) (hchk : checkBroadcastHash A = true)
    (hm : m ∈ B.out) (hmr : m.rnd = r + 1) (hbv : m.bv = some hB)
    (hst : (∃ f, (r + 1, f, m) ∈ A.msgs) ∨ (∃ f, (r + 1, f, m) ∈ A.bc)) :
    (∀ id ∈ scA.ids, ∃ ma mb, lookup A.bc r id = some ma ∧ lookup B.bc r id = some mb ∧ wire ma = wire mb) ∨
    (∃ x y : Bytes, x ≠ y ∧ H x = H y) :=
  (echo_agreement_or H hH scA scB hids hsess hsw A B rA rB r hA hB m wfA wfB hcur hbhA hchk hm hmr hbv hst).imp_right
    EchoCollision.collision

/-- the states between two API calls are among the states quantified over above -/
theorem runs_are_reachable (H : Bytes → Bytes) (sc : Script) (calls : List Call) : Reach H sc (run H sc calls) :=
  run_reach H sc calls

/-! ### Non-vacuity: a concrete pair of handlers meeting the hypotheses of `echo_agreement` about the two states
  (`Reach` is `runs_are_reachable`; `MsgOk` of the stored broadcasts and `mb.bv.isSome` are not part of the
  example) -/

section demo
def Hd (b : Bytes) : Bytes := [UInt8.ofNat (b.foldl (fun a x => (a * 31 + x.toNat) % 251) 7)]
def scA : Script := { ids := [str "a", str "b", str "c"], self := str "a", final := 3, rounds := [⟨1, false, false⟩, ⟨2, true, false⟩, ⟨3, false, true⟩], proto := str "p", ssid := [9], sess := [], finErrAt := 0 }
def scB : Script := { scA with self := str "b" }
def scC : Script := { scA with self := str "c" }
def ba : Msg := (init Hd scA).out.headD default   -- round-2 broadcasts
def bb : Msg := (init Hd scB).out.headD default
def bcc : Msg := (init Hd scC).out.headD default
def stB : State := run Hd scB [.accept ba, .accept bcc]     -- B is in round 3 and has sent its p2p messages
def mb : Msg := stB.out.getD 1 default                       -- … the one for A
def stA : State := run Hd scA [.accept bb, .accept bcc, .accept mb]   -- A still waits for C's p2p message

set_option maxRecDepth 100000 in
example : stA.cur = 2 + 1 ∧ checkBroadcastHash stA = true ∧ mb ∈ stB.out ∧ mb.rnd = 2 + 1 ∧
    (bhLookup stA.bh 2).isSome = true ∧ mb.bv = bhLookup stB.bh 2 ∧ (2 + 1, str "b", mb) ∈ stA.msgs := by decide +kernel
end demo

/-- `Message.Hash` hashes these eight items in this order — the layout `msgHashItems` models -/
theorem gen_message_hash : MpsGen.Session.messageHash =
    [ "hash.BytesWithDomain{TheDomain: \"SSID\", Bytes: m.SSID}", "m.From", "m.To",
      "hash.BytesWithDomain{TheDomain: \"Protocol\", Bytes: []byte(m.Protocol)}", "m.RoundNumber",
      "hash.BytesWithDomain{TheDomain: \"Content\", Bytes: m.Data}",
      "hash.BytesWithDomain{TheDomain: \"Broadcast\", Bytes: []byte{broadcast}}",
      "hash.BytesWithDomain{TheDomain: \"BroadcastVerification\", Bytes: m.BroadcastVerification}" ] := rfl

/-- `receivedAll` hashes the broadcast of EVERY party in id order on top of the session hash; `checkBroadcastHash`
    compares the attached hash of every stored p2p and broadcast message of the current round with the hash of
    round number − 1; `finalize` stamps outgoing messages with the hash of (new round number − 1) -/
theorem gen_echo :
    MpsGen.Session.receivedAllEcho =
      [ "if _, ok := r.(round.BroadcastRound); ok: if h.broadcastHashes[number] == nil: r.Hash()",
        "if _, ok := r.(round.BroadcastRound); ok: if h.broadcastHashes[number] == nil: hashState.WriteAny(&hash.BytesWithDomain{ TheDomain: \"Message\", Bytes: msg.Hash(), })",
        "if _, ok := r.(round.BroadcastRound); ok: if h.broadcastHashes[number] == nil: msg.Hash()",
        "if _, ok := r.(round.BroadcastRound); ok: if h.broadcastHashes[number] == nil: hashState.Sum()" ] ∧
    MpsGen.Session.receivedAllRanges = ["_, id := range r.PartyIDs()", "_, id := range r.PartyIDs()", "_, id := range r.OtherPartyIDs()"] ∧
    MpsGen.Session.checkBroadcastHash =
      [ "previousHash == nil => true",
        "msg != nil && !bytes.Equal(previousHash, msg.BroadcastVerification) => false",
        "msg != nil && !bytes.Equal(previousHash, msg.BroadcastVerification) => false" ] ∧
    MpsGen.Session.checkBroadcastHashRanges = ["_, msg := range h.messages[number]", "_, msg := range h.broadcast[number]"] ∧
    MpsGen.Session.finalizeEcho =
      [ "h.receivedAll()", "h.checkBroadcastHash()",
        "if !h.checkBroadcastHash(): h.abort(errBroadcastVerification)",
        "h.currentRound.Finalize(out)",
        "if err != nil || r == nil: h.abort(err, h.currentRound.SelfID())",
        "h.abort(R.Err, R.Culprits...)", "h.abort(nil)",
        "if _, ok := r.(round.BroadcastRound); ok: if err = h.verifyBroadcastMessage(m); err != nil: h.abortVerification(err, m.From)",
        "if else: if err = h.verifyMessage(m); err != nil: h.abortVerification(err, m.From)" ] :=
  ⟨rfl, rfl, rfl, rfl, rfl⟩

end Mps.C06
