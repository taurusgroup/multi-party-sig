import MpsGen.HandlerSrc
import Mps.HandlerPins
/-
  The tie of the handler models to the handler SOURCE: every function of pkg/protocol/handler.go, twoparty.go and
  message.go that Mps.Handler / Mps.TwoParty transcribe is, line by line, the text the transcription was validated
  against (Mps/HandlerPins.lean, written by bin/mkhandlerpins). Any edit breaks an obligation below.
-/
namespace Mps.HandlerSrc

theorem gen_handler_source_0 :
    MpsGen.HandlerSrc.mhAbort = Mps.HandlerPins.mhAbort ∧
    MpsGen.HandlerSrc.mhAbortVerification = Mps.HandlerPins.mhAbortVerification ∧
    MpsGen.HandlerSrc.mhAccept = Mps.HandlerPins.mhAccept ∧
    MpsGen.HandlerSrc.mhCanAccept = Mps.HandlerPins.mhCanAccept ∧
    MpsGen.HandlerSrc.mhCanAcceptInner = Mps.HandlerPins.mhCanAcceptInner ∧
    MpsGen.HandlerSrc.mhCheckBroadcastHash = Mps.HandlerPins.mhCheckBroadcastHash :=
  ⟨rfl, rfl, rfl, rfl, rfl, rfl⟩

theorem gen_handler_source_1 :
    MpsGen.HandlerSrc.mhDuplicate = Mps.HandlerPins.mhDuplicate ∧
    MpsGen.HandlerSrc.mhExpectsNormalMessage = Mps.HandlerPins.mhExpectsNormalMessage ∧
    MpsGen.HandlerSrc.mhFinalize = Mps.HandlerPins.mhFinalize ∧
    MpsGen.HandlerSrc.mhGetRoundMessage = Mps.HandlerPins.mhGetRoundMessage ∧
    MpsGen.HandlerSrc.mhListen = Mps.HandlerPins.mhListen ∧
    MpsGen.HandlerSrc.mhNew = Mps.HandlerPins.mhNew :=
  ⟨rfl, rfl, rfl, rfl, rfl, rfl⟩

theorem gen_handler_source_2 :
    MpsGen.HandlerSrc.mhNewQueue = Mps.HandlerPins.mhNewQueue ∧
    MpsGen.HandlerSrc.mhReceivedAll = Mps.HandlerPins.mhReceivedAll ∧
    MpsGen.HandlerSrc.mhResult = Mps.HandlerPins.mhResult ∧
    MpsGen.HandlerSrc.mhSameBroadcastView = Mps.HandlerPins.mhSameBroadcastView ∧
    MpsGen.HandlerSrc.mhStop = Mps.HandlerPins.mhStop ∧
    MpsGen.HandlerSrc.mhStore = Mps.HandlerPins.mhStore :=
  ⟨rfl, rfl, rfl, rfl, rfl, rfl⟩

theorem gen_handler_source_3 :
    MpsGen.HandlerSrc.mhVerifyBroadcastMessage = Mps.HandlerPins.mhVerifyBroadcastMessage ∧
    MpsGen.HandlerSrc.mhVerifyMessage = Mps.HandlerPins.mhVerifyMessage ∧
    MpsGen.HandlerSrc.msgHash = Mps.HandlerPins.msgHash ∧
    MpsGen.HandlerSrc.msgIsFor = Mps.HandlerPins.msgIsFor ∧
    MpsGen.HandlerSrc.tpAbort = Mps.HandlerPins.tpAbort ∧
    MpsGen.HandlerSrc.tpAccept = Mps.HandlerPins.tpAccept :=
  ⟨rfl, rfl, rfl, rfl, rfl, rfl⟩

theorem gen_handler_source_4 :
    MpsGen.HandlerSrc.tpAdvance = Mps.HandlerPins.tpAdvance ∧
    MpsGen.HandlerSrc.tpCanAccept = Mps.HandlerPins.tpCanAccept ∧
    MpsGen.HandlerSrc.tpCanAcceptInner = Mps.HandlerPins.tpCanAcceptInner ∧
    MpsGen.HandlerSrc.tpCanAdvance = Mps.HandlerPins.tpCanAdvance ∧
    MpsGen.HandlerSrc.tpExtractRoundMessage = Mps.HandlerPins.tpExtractRoundMessage ∧
    MpsGen.HandlerSrc.tpListen = Mps.HandlerPins.tpListen :=
  ⟨rfl, rfl, rfl, rfl, rfl, rfl⟩

theorem gen_handler_source_5 :
    MpsGen.HandlerSrc.tpNew = Mps.HandlerPins.tpNew ∧
    MpsGen.HandlerSrc.tpResult = Mps.HandlerPins.tpResult ∧
    MpsGen.HandlerSrc.tpStop = Mps.HandlerPins.tpStop ∧
    MpsGen.HandlerSrc.tpVerifyMessage = Mps.HandlerPins.tpVerifyMessage :=
  ⟨rfl, rfl, rfl, rfl⟩

end Mps.HandlerSrc
