import MpsGen.Alg
/-
  Obligations over the fact tables the translator regenerates from the CURRENT source (MpsGen/Alg.lean):
  the statements of the Go functions that lean/Mps/Algebra.lean transcribes. A changed formula, loop,
  guard or struct literal breaks the corresponding `gen_*` equality (closed terms on both sides, checked by `rfl`).
  The property each obligation belongs to is named in its doc comment.
-/
namespace Mps.AlgGen

/-- [C14] ties Alg.bip32DeriveScalar -/
theorem gen_bip32Derive : MpsGen.Alg.bip32Derive =
    [ "if i>>31 != 0 {",
      "panic(\"DeriveScalar doesn't work with hardened keys.\")",
      "}",
      "h := hmac.New(sha512.New, chaining)",
      "compressed, _ := public.MarshalBinary()",
      "_, _ = h.Write(compressed)",
      "iBytes := make([]byte, 4)",
      "binary.BigEndian.PutUint32(iBytes, i)",
      "h.Write(iBytes)",
      "out := h.Sum(nil)",
      "scalar := new(curve.Secp256k1Scalar)",
      "err := scalar.UnmarshalBinary(out[:32])",
      "if err != nil || scalar.IsZero() {",
      "return nil, nil, fmt.Errorf(\"bad index: %d\", i)",
      "}",
      "return scalar, out[32:], nil" ] := rfl

/-- [C14] ties Alg.deriveShare, derivePublic; chain-key rule of Drv.Alg.deriveChain -/
theorem gen_cmpDerive : MpsGen.Alg.cmpDerive =
    [ "len(newChainKey) != params.SecBytes => nil, fmt.Errorf(\"expecte %d bytes for chain key, found %d\", params.SecBytes, len(newChainKey))",
      "newChainKey = c.ChainKey",
      "adjustG := adjust.ActOnBase()",
      "Public{ ECDSA: v.ECDSA.Add(adjustG), ElGamal: v.ElGamal, Paillier: v.Paillier, Pedersen: v.Pedersen, }",
      "Config{ Group: c.Group, ID: c.ID, Threshold: c.Threshold, ECDSA: c.Group.NewScalar().Set(c.ECDSA).Add(adjust), ElGamal: c.ElGamal, Paillier: c.Paillier, RID: c.RID, ChainKey: newChainKey, Public: public, }" ] := rfl

/-- [C14] ties DeriveBIP32 = DeriveScalar(PublicPoint(), ChainKey, i) then Derive -/
theorem gen_cmpDeriveBIP32 : MpsGen.Alg.cmpDeriveBIP32 =
    [ "c.PublicPoint()",
      "bip32.DeriveScalar(publicPoint, c.ChainKey, i)",
      "c.Derive(scalar, newChainKey)" ] := rfl

/-- [C02] ties Alg.cmpPolyChecks: constant rule and degree rule (entries 6 and 7) -/
theorem gen_cmpKeygenChecks : MpsGen.Alg.cmpKeygenChecks =
    [ "!ok || body == nil => round.ErrInvalidContent",
      "body.N == nil || body.S == nil || body.T == nil || body.VSSPolynomial == nil || body.SchnorrCommitments == nil => round.ErrNilFields",
      "err := body.RID.Validate(); err != nil => fmt.Errorf(\"rid: %w\", err)",
      "err := body.C.Validate(); err != nil => fmt.Errorf(\"chainkey: %w\", err)",
      "err := body.Decommitment.Validate(); err != nil => err",
      "!(r.VSSSecret.Constant().IsZero() == VSSPolynomial.IsConstant) => errors.New(\"vss polynomial has incorrect constant\")",
      "VSSPolynomial.Degree() != r.Threshold() => errors.New(\"vss polynomial has incorrect degree\")",
      "err := paillier.ValidateN(body.N); err != nil => err",
      "err := pedersen.ValidateParameters(body.N, body.S, body.T); err != nil => err",
      "!r.HashForID(from).Decommit(r.Commitments[from], body.Decommitment, body.RID, body.C, VSSPolynomial, body.SchnorrCommitments, body.ElGamalPublic, body.N, body.S, body.T) => errors.New(\"failed to decommit\")" ] := rfl

/-- [C02] ties Alg.finalShare, Alg.finalPublicCmp -/
theorem gen_cmpKeygenFinal : MpsGen.Alg.cmpKeygenFinal =
    [ "UpdatedSecretECDSA := r.Group().NewScalar()",
      "if r.PreviousSecretECDSA != nil {",
      "UpdatedSecretECDSA.Set(r.PreviousSecretECDSA)",
      "range _, j := r.PartyIDs() {",
      "UpdatedSecretECDSA.Add(r.ShareReceived[j])",
      "ShamirPublicPolynomial, err := polynomial.Sum(ShamirPublicPolynomials)",
      "range _, j := r.PartyIDs() {",
      "PublicECDSAShare := ShamirPublicPolynomial.Evaluate(j.Scalar(r.Group()))",
      "if r.PreviousPublicSharesECDSA != nil {",
      "PublicECDSAShare = PublicECDSAShare.Add(r.PreviousPublicSharesECDSA[j])" ] := rfl

/-- [C02] ties Alg.feldmanCheck -/
theorem gen_cmpKeygenVss : MpsGen.Alg.cmpKeygenVss =
    [ "DecryptedShare, err := r.PaillierSecret.Dec(body.Share)",
      "Share := r.Group().NewScalar().SetNat(DecryptedShare.Mod(r.Group().Order()))",
      "if DecryptedShare.Eq(curve.MakeInt(Share)) != 1 {",
      "ExpectedPublicShare := r.VSSPolynomials[from].Evaluate(r.SelfID().Scalar(r.Group()))",
      "PublicShare := Share.ActOnBase()",
      "if !PublicShare.Equal(ExpectedPublicShare) {",
      "r.ShareReceived[from] = Share" ] := rfl

/-- [C01] ties Alg.cmpMtaShare in presign3 -/
theorem gen_cmpPresign3 : MpsGen.Alg.cmpPresign3 =
    [ "DeltaShare := new(saferith.Int).Mul(r.GammaShare, KShareInt, -1)",
      "ChiShare := new(saferith.Int).Mul(curve.MakeInt(r.SecretECDSA), KShareInt, -1)",
      "DeltaShare.Add(DeltaShare, DeltaSharesAlpha[j], -1)",
      "DeltaShare.Add(DeltaShare, r.DeltaShareBeta[j], -1)",
      "ChiShare.Add(ChiShare, ChiSharesAlpha[j], -1)",
      "ChiShare.Add(ChiShare, r.ChiShareBeta[j], -1)",
      "DeltaShareScalar := r.Group().NewScalar().SetNat(DeltaShare.Mod(r.Group().Order()))" ] := rfl

/-- [C01] ties Alg.cmpR, presignS, presignRBar, cmpDeltaCheck -/
theorem gen_cmpPresign6 : MpsGen.Alg.cmpPresign6 =
    [ "Delta.Add(DeltaJ)",
      "DeltaInv := r.Group().NewScalar().Set(Delta).Invert()",
      "R := DeltaInv.Act(r.Gamma)",
      "BigDeltaExpected := Delta.ActOnBase()",
      "BigDeltaActual = BigDeltaActual.Add(BigDeltaJ)",
      "S := r.ChiShare.Act(R)",
      "RBar[j] = DeltaInv.Act(BigDeltaJ)" ] := rfl

/-- [C01] ties Alg.presignKeyCheck -/
theorem gen_cmpPresign7 : MpsGen.Alg.cmpPresign7 =
    [ "PublicKeyComputed := r.Group().NewPoint()",
      "PublicKeyComputed = PublicKeyComputed.Add(Sj)",
      "if !r.PublicKey.Equal(PublicKeyComputed) {" ] := rfl

/-- [C02] ties Alg.cmpPublicPoint -/
theorem gen_cmpPublicPoint : MpsGen.Alg.cmpPublicPoint =
    [ "sum := c.Group.NewPoint()",
      "partyIDs := make([]party.ID, 0, len(c.Public))",
      "range j := c.Public {",
      "partyIDs = append(partyIDs, j)",
      "}",
      "l := polynomial.Lagrange(c.Group, partyIDs)",
      "range j, partyJ := c.Public {",
      "sum = sum.Add(l[j].Act(partyJ.ECDSA))",
      "}",
      "return sum" ] := rfl

/-- [C01] ties Alg.cmpGamma, cmpBigDeltaShare, cmpMtaShare (δ and χ) -/
theorem gen_cmpSignRound3 : MpsGen.Alg.cmpSignRound3 =
    [ "Gamma = Gamma.Add(BigGammaShare)",
      "BigDeltaShare := r.KShare.Act(Gamma)",
      "DeltaShare := new(saferith.Int).Mul(r.GammaShare, KShareInt, -1)",
      "ChiShare := new(saferith.Int).Mul(curve.MakeInt(r.SecretECDSA), KShareInt, -1)",
      "DeltaShare.Add(DeltaShare, r.DeltaShareAlpha[j], -1)",
      "DeltaShare.Add(DeltaShare, r.DeltaShareBeta[j], -1)",
      "ChiShare.Add(ChiShare, r.ChiShareAlpha[j], -1)",
      "ChiShare.Add(ChiShare, r.ChiShareBeta[j], -1)",
      "DeltaShareScalar := r.Group().NewScalar().SetNat(DeltaShare.Mod(r.Group().Order()))",
      "return &round4{ round3: r, DeltaShares: map[party.ID]curve.Scalar{r.SelfID(): DeltaShareScalar}, BigDeltaShares: map[party.ID]curve.Point{r.SelfID(): BigDeltaShare}, Gamma: Gamma, ChiShare: r.Group().NewScalar().SetNat(ChiShare.Mod(r.Group().Order())), }, nil" ] := rfl

/-- [C01] ties Alg.cmpDeltaCheck, cmpR, cmpSigmaShare -/
theorem gen_cmpSignRound4 : MpsGen.Alg.cmpSignRound4 =
    [ "Delta.Add(r.DeltaShares[j])",
      "BigDelta = BigDelta.Add(r.BigDeltaShares[j])",
      "deltaComputed := Delta.ActOnBase()",
      "if !deltaComputed.Equal(BigDelta) {",
      "deltaInv := r.Group().NewScalar().Set(Delta).Invert()",
      "BigR := deltaInv.Act(r.Gamma)",
      "R := BigR.XScalar()",
      "km := curve.FromHash(r.Group(), r.Message)",
      "km.Mul(r.KShare)",
      "SigmaShare := r.Group().NewScalar().Set(R).Mul(r.ChiShare).Add(km)" ] := rfl

/-- [C01] ties Alg.ecdsaAssemble; output only under Verify -/
theorem gen_cmpSignRound5 : MpsGen.Alg.cmpSignRound5 =
    [ "Sigma.Add(r.SigmaShares[j])",
      "signature := &ecdsa.Signature{ R: r.BigR, S: Sigma, }",
      "if !signature.Verify(r.PublicKey, r.Message) {" ] := rfl

/-- [C01] ties same scaling in StartPresign -/
theorem gen_cmpStartPresign : MpsGen.Alg.cmpStartPresign =
    [ "lagrange := polynomial.Lagrange(group, signers)",
      "SecretECDSA := group.NewScalar().Set(lagrange[c.ID]).Mul(c.ECDSA)",
      "ECDSA[j] = lagrange[j].Act(public.ECDSA)",
      "PublicKey = PublicKey.Add(ECDSA[j])" ] := rfl

/-- [C01] ties Alg.cmpScaleSecret, cmpScalePublic, cmpSignPublicKey -/
theorem gen_cmpStartSign : MpsGen.Alg.cmpStartSign =
    [ "lagrange := polynomial.Lagrange(group, signers)",
      "SecretECDSA := group.NewScalar().Set(lagrange[config.ID]).Mul(config.ECDSA)",
      "ECDSA[j] = lagrange[j].Act(public.ECDSA)",
      "PublicKey = PublicKey.Add(ECDSA[j])" ] := rfl

/-- [C14] ties Alg.doernerDeriveReceiver: the receiver ADDS the tweak; `ChainKey: newChainKey` (since 4df2a70; before: `doernerDeriveOld`) -/
theorem gen_doernerDeriveReceiver : MpsGen.Alg.doernerDeriveReceiver =
    [ "newChainKey = c.ChainKey",
      "adjustG := adjust.ActOnBase()",
      "len(newChainKey) != params.SecBytes => nil, fmt.Errorf(\"expecte %d bytes for chain key, found %d\", params.SecBytes, len(newChainKey))",
      "ConfigReceiver{ Setup: c.Setup, SecretShare: c.SecretShare.Curve().NewScalar().Set(c.SecretShare).Add(adjust), Public: c.Public.Add(adjustG), ChainKey: newChainKey, }" ] := rfl

/-- [C14] ties Alg.doernerDeriveSender: the sender KEEPS its share (no `.Add(adjust)`); `ChainKey: newChainKey` (since 4df2a70; before: `doernerDeriveOld`) -/
theorem gen_doernerDeriveSender : MpsGen.Alg.doernerDeriveSender =
    [ "newChainKey = c.ChainKey",
      "adjustG := adjust.ActOnBase()",
      "len(newChainKey) != params.SecBytes => nil, fmt.Errorf(\"expecte %d bytes for chain key, found %d\", params.SecBytes, len(newChainKey))",
      "ConfigSender{ Setup: c.Setup, SecretShare: c.SecretShare.Curve().NewScalar().Set(c.SecretShare), Public: c.Public.Add(adjustG), ChainKey: newChainKey, }" ] := rfl

/-- [C08] ties Alg.doernerNewShare, Alg.doernerPublic; the chain key is re-drawn on refresh too -/
theorem gen_doernerKeygenShares : MpsGen.Alg.doernerKeygenShares =
    [ "r.public = r.publicShare.Add(body.PublicShare)",
      "r.chainKey = body.ChainKey",
      "for i := 0; i < len(r.chainKey) && i < len(r.ourChainKey); i++ {",
      "r.chainKey[i] ^= r.ourChainKey[i]",
      "r.secretShare = r.Group().NewScalar().Set(r.secretShare).Add(r.refreshScalar).Sub(body.RefreshScalar)",
      "r.public = r.publicShare.Add(body.PublicShare)",
      "for i := 0; i < len(r.chainKey) && i < len(body.ChainKey); i++ {",
      "r.chainKey[i] ^= body.ChainKey[i]",
      "r.secretShare = r.Group().NewScalar().Set(r.secretShare).Add(r.refreshScalar).Sub(body.RefreshScalar)" ] := rfl

/-- [C01] ties Alg.doeD, doeKBInv, doeBeta -/
theorem gen_doernerSign1R : MpsGen.Alg.doernerSign1R =
    [ "kB := sample.Scalar(rand.Reader, r.Group())",
      "D := kB.ActOnBase()",
      "kB.Invert()",
      "multiply0, err := ot.NewMultiplyReceiver(r.Hash().Fork(tag0), r.config.Setup, kB)",
      "multiply1, err := ot.NewMultiplyReceiver(r.Hash().Fork(tag1), r.config.Setup, kB)",
      "beta := r.Group().NewScalar().Set(r.config.SecretShare).Mul(kB)",
      "return &round2R{round1R: r, kBInv: kB, D: D, multiply0: multiply0, multiply1: multiply1, multiply2: multiply2}, nil" ] := rfl

/-- [C01] ties Alg.doeR, doeAlpha0/1/2, doeTA2, doeGamma1A, doeMuPhi, doeSigA, doeGamma2A, doeMuSig -/
theorem gen_doernerSign1S : MpsGen.Alg.doernerSign1S =
    [ "kA := sample.Scalar(H.Digest(), group).Add(kAPrime)",
      "R := kA.Act(r.D)",
      "phi := sample.Scalar(rand.Reader, group)",
      "kAInv := group.NewScalar().Set(kA).Invert()",
      "alpha1 := group.NewScalar().Set(r.config.SecretShare).Mul(kAInv)",
      "alpha2 := group.NewScalar().Set(kAInv)",
      "alpha0 := kAInv",
      "alpha0.Add(phi)",
      "tA2 := tA21.Add(tA22)",
      "Gamma1 := group.NewBasePoint().Add(phi.Act(kA.ActOnBase())).Sub(tA1.Act(R))",
      "HGamma1 := sample.Scalar(H.Digest(), group)",
      "muPhi := HGamma1.Add(phi)",
      "sigA := group.NewScalar().Set(m).Mul(tA1).Add(R.XScalar().Mul(tA2))",
      "Gamma2 := tA1.Act(r.config.Public).Sub(tA2.ActOnBase())",
      "HGamma2 := sample.Scalar(H.Digest(), group)",
      "muSig := HGamma2.Add(sigA)" ] := rfl

/-- [C01] ties Alg.doeGamma1B, doePhiB, doeTheta, doeSigB, doeGamma2B, doeSigAB; output only under Verify -/
theorem gen_doernerSign2R : MpsGen.Alg.doernerSign2R =
    [ "R := sample.Scalar(hash.Digest(), group).Act(r.D).Add(r.RPrime)",
      "tB2 := tB21.Add(tB22)",
      "Gamma1 := tB1.Act(R)",
      "HGamma1 := sample.Scalar(hash.Digest(), group)",
      "phi := HGamma1.Negate().Add(r.MuPhi)",
      "theta := group.NewScalar().Set(phi).Mul(r.kBInv).Negate().Add(tB1)",
      "sigB := group.NewScalar().Set(m).Mul(theta).Add(R.XScalar().Mul(tB2))",
      "Gamma2 := tB2.ActOnBase().Sub(theta.Act(r.config.Public))",
      "HGamma2 := sample.Scalar(hash.Digest(), group)",
      "sigAB := sigB.Add(r.MuSig).Sub(HGamma2)",
      "sig := ecdsa.Signature{R: R, S: sigAB}",
      "if !sig.Verify(r.config.Public, r.hash) {" ] := rfl

/-- [C01] ties Alg.ecdsaVerify / ecdsaEq -/
theorem gen_ecdsaVerify : MpsGen.Alg.ecdsaVerify =
    [ "group := X.Curve()",
      "r := sig.R.XScalar()",
      "if r.IsZero() || sig.S.IsZero() {",
      "return false",
      "}",
      "m := curve.FromHash(group, hash)",
      "sInv := group.NewScalar().Set(sig.S).Invert()",
      "mG := m.ActOnBase()",
      "rX := r.Act(X)",
      "R2 := mG.Add(rX)",
      "R2 = sInv.Act(R2)",
      "return R2.Equal(sig.R)" ] := rfl

/-- [C02] ties Alg.addExp -/
theorem gen_expAdd : MpsGen.Alg.expAdd =
    [ "if len(p.coefficients) != len(q.coefficients) {",
      "return errors.New(\"q is not the same length as p\")",
      "}",
      "if p.IsConstant != q.IsConstant {",
      "return errors.New(\"p and q differ in 'IsConstant'\")",
      "}",
      "for i := 0; i < len(p.coefficients); i++ {",
      "p.coefficients[i] = p.coefficients[i].Add(q.coefficients[i])",
      "}",
      "return nil" ] := rfl

/-- [C02] ties Alg.expConstant? -/
theorem gen_expConstant : MpsGen.Alg.expConstant =
    [ "c := p.group.NewPoint()",
      "if p.IsConstant || len(p.coefficients) == 0 {",
      "return c",
      "}",
      "return p.coefficients[0]" ] := rfl

/-- [C02] ties Alg.expDegree -/
theorem gen_expDegree : MpsGen.Alg.expDegree =
    [ "if p.IsConstant {",
      "return len(p.coefficients)",
      "}",
      "return len(p.coefficients) - 1" ] := rfl

/-- [C02] ties Alg.evalExp: Horner in the exponent, one more x· when IsConstant -/
theorem gen_expEvaluate : MpsGen.Alg.expEvaluate =
    [ "result := p.group.NewPoint()",
      "for i := len(p.coefficients) - 1; i >= 0; i-- {",
      "result = x.Act(result).Add(p.coefficients[i])",
      "}",
      "if p.IsConstant {",
      "result = x.Act(result)",
      "}",
      "return result" ] := rfl

/-- [C02] ties Alg.sumExp / sumExpFrom -/
theorem gen_expSum : MpsGen.Alg.expSum =
    [ "var err error",
      "summed := polynomials[0].copy()",
      "for j := 1; j < len(polynomials); j++ {",
      "err = summed.add(polynomials[j])",
      "if err != nil {",
      "return nil, err",
      "}",
      "}",
      "return summed, nil" ] := rfl

/-- [C01] ties Alg.fromHash -/
theorem gen_fromHash : MpsGen.Alg.fromHash =
    [ "order := group.Order()",
      "orderBits := order.BitLen()",
      "orderBytes := (orderBits + 7) / 8",
      "if len(h) > orderBytes {",
      "h = h[:orderBytes]",
      "}",
      "s := new(saferith.Nat).SetBytes(h)",
      "excess := len(h)*8 - orderBits",
      "if excess > 0 {",
      "s.Rsh(s, uint(excess), -1)",
      "}",
      "return group.NewScalar().SetNat(s)" ] := rfl

/-- [C14] ties Alg.deriveShare, derivePublic -/
theorem gen_frostDerive : MpsGen.Alg.frostDerive =
    [ "len(newChainKey) != params.SecBytes => nil, fmt.Errorf(\"expecte %d bytes for chain key, found %d\", params.SecBytes, len(newChainKey))",
      "newChainKey = r.ChainKey",
      "adjustG := adjust.ActOnBase()",
      "verificationShares[k] = v.Add(adjustG)",
      "Config{ ID: r.ID, Threshold: r.Threshold, PrivateShare: r.PrivateShare.Curve().NewScalar().Set(r.PrivateShare).Add(adjust), PublicKey: r.PublicKey.Add(adjustG), ChainKey: newChainKey, VerificationShares: party.NewPointMap(verificationShares), }" ] := rfl

/-- [C14] ties DeriveChild = DeriveScalar(PublicKey, ChainKey, i) then Derive -/
theorem gen_frostDeriveChild : MpsGen.Alg.frostDeriveChild =
    [ "bip32.DeriveScalar(publicKey, r.ChainKey, i)",
      "r.Derive(scalar, newChainKey)" ] := rfl

/-- [C02] ties Alg.frostRefreshConstCheck — with the degree rule (since ae5924a: a commitment of another degree is refused) -/
theorem gen_frostKeygenChecks : MpsGen.Alg.frostKeygenChecks =
    [ "!ok || body == nil => round.ErrInvalidContent",
      "(!r.refresh && !body.Sigma_i.IsValid()) || body.Phi_i == nil => round.ErrNilFields",
      "err := body.Commitment.Validate(); err != nil => fmt.Errorf(\"commitment: %w\", err)",
      "body.Phi_i.Degree() != r.threshold => fmt.Errorf(\"party %s sent a polynomial of degree %d, expected %d\", from, body.Phi_i.Degree(), r.threshold)",
      "!body.Phi_i.Constant().IsIdentity() => fmt.Errorf(\"party %s sent a non-zero constant while refreshing\", from)",
      "!body.Sigma_i.Verify(r.Helper.HashForID(from), body.Phi_i.Constant(), nil) => fmt.Errorf(\"failed to verify Schnorr proof for party %s\", from)" ] := rfl

/-- [C14] ties Alg.frostResultChainKey: both result literals carry `ChainKey: ChainKey` (since eba3819; before, the field was missing: `frostResultChainKeyOld`) -/
theorem gen_frostKeygenConfig : MpsGen.Alg.frostKeygenConfig =
    [ "TaprootConfig{ ID: r.SelfID(), Threshold: r.threshold, PrivateShare: r.privateShare.(*curve.Secp256k1Scalar), PublicKey: YSecp.XBytes()[:], ChainKey: ChainKey, VerificationShares: secpVerificationShares, }",
      "Config{ ID: r.SelfID(), Threshold: r.threshold, PrivateShare: r.privateShare, PublicKey: r.publicKey, ChainKey: ChainKey, VerificationShares: party.NewPointMap(r.verificationShares), }" ] := rfl

/-- [C02] ties Alg.finalShare, Alg.frostGroupKey, Alg.finalPublicFrost; the chain key is computed into a local -/
theorem gen_frostKeygenFinal : MpsGen.Alg.frostKeygenFinal =
    [ "ChainKey := types.EmptyRID()",
      "ChainKey.XOR(r.ChainKeys[j])",
      "r.privateShare.Add(f_li)",
      "r.publicKey = r.publicKey.Add(phi_j.Constant())",
      "verificationExponent, err := polynomial.Sum(exponents)",
      "r.verificationShares[k] = v.Add(verificationExponent.Evaluate(k.Scalar(r.Group())))" ] := rfl

/-- [C02] ties Alg.feldmanCheck -/
theorem gen_frostKeygenVss : MpsGen.Alg.frostKeygenVss =
    [ "expected := body.F_li.ActOnBase()",
      "actual := r.Phi[from].Evaluate(r.SelfID().Scalar(r.Group()))",
      "if !expected.Equal(actual) {",
      "r.shareFrom[from] = body.F_li" ] := rfl

/-- [C01] ties Alg.frostRShare, Alg.frostR, Alg.frostResponse -/
theorem gen_frostSignRound2 : MpsGen.Alg.frostSignRound2 =
    [ "RShares[l] = rho[l].Act(r.E[l])",
      "RShares[l] = RShares[l].Add(r.D[l])",
      "R = R.Add(RShares[l])",
      "RShares[l] = RShares[l].Negate()",
      "Lambdas := polynomial.Lagrange(r.Group(), r.PartyIDs())",
      "z_i := r.Group().NewScalar().Set(Lambdas[r.SelfID()]).Mul(r.s_i).Mul(c)",
      "z_i.Add(r.d_i)",
      "ed := r.Group().NewScalar().Set(rho[r.SelfID()]).Mul(r.e_i)",
      "z_i.Add(ed)",
      "err := r.BroadcastMessage(out, &broadcast3{Z_i: z_i})",
      "return &round3{ round2: r, R: R, RShares: RShares, c: c, z: map[party.ID]curve.Scalar{r.SelfID(): z_i}, Lambda: Lambdas, }, nil" ] := rfl

/-- [C01] ties Alg.frostShareCheck, Alg.frostAssemble; output only under Verify -/
theorem gen_frostSignRound3 : MpsGen.Alg.frostSignRound3 =
    [ "expected := r.c.Act(r.Lambda[from].Act(r.YShares[from])).Add(r.RShares[from])",
      "actual := body.Z_i.ActOnBase()",
      "if !actual.Equal(expected) {",
      "z := r.Group().NewScalar()",
      "z.Add(z_l)",
      "if !taprootPub.Verify(sig, r.M) {",
      "if !sig.Verify(r.Y, r.M) {" ] := rfl

/-- [C01] ties Alg.schnorrVerify -/
theorem gen_frostVerify : MpsGen.Alg.frostVerify =
    [ "group := public.Curve()",
      "challengeHash := hash.New()",
      "_ = challengeHash.WriteAny(sig.R, public, messageHash(m))",
      "challenge := sample.Scalar(challengeHash.Digest(), group)",
      "expected := challenge.Act(public)",
      "expected = expected.Add(sig.R)",
      "actual := sig.z.ActOnBase()",
      "return expected.Equal(actual)" ] := rfl

/-- [C01] ties Alg.idScalar: big-endian bytes of the id, reduced by SetNat -/
theorem gen_idScalar : MpsGen.Alg.idScalar =
    [ "group.NewScalar().SetNat(new(saferith.Nat).SetBytes([]byte(id)))" ] := rfl

/-- [C01] ties Alg.lagDenominator / Alg.lagrangeCoeff: loop over the MAP; factor xⱼ for i == j, else −xⱼ + xᵢ; result = denominator⁻¹ · numerator -/
theorem gen_lagrangeBody : MpsGen.Alg.lagrangeBody =
    [ "xJ := interpolationDomain[j]",
      "tmp := group.NewScalar()",
      "denominator := group.NewScalar().SetNat(new(saferith.Nat).SetUint64(1))",
      "range i, xI := interpolationDomain {",
      "if i == j {",
      "denominator.Mul(xJ)",
      "continue",
      "}",
      "tmp.Set(xJ).Negate().Add(xI)",
      "denominator.Mul(tmp)",
      "}",
      "lJ := denominator.Invert()",
      "lJ.Mul(numerator)",
      "return lJ" ] := rfl

/-- [C01] ties Alg.lagrangeFor -/
theorem gen_lagrangeFor : MpsGen.Alg.lagrangeFor =
    [ "scalars, numerator := getScalarsAndNumerator(group, interpolationDomain)",
      "coefficients := make(map[party.ID]curve.Scalar, len(subset))",
      "range _, j := subset {",
      "coefficients[j] = lagrange(group, scalars, numerator, j)",
      "}",
      "return coefficients" ] := rfl

/-- [C01] ties Alg.lagNumerator: numerator = 1·∏ over the id LIST -/
theorem gen_lagrangeNumerator : MpsGen.Alg.lagrangeNumerator =
    [ "numerator := group.NewScalar().SetNat(new(saferith.Nat).SetUint64(1))",
      "scalars := make(map[party.ID]curve.Scalar, len(interpolationDomain))",
      "range _, id := interpolationDomain {",
      "xi := id.Scalar(group)",
      "scalars[id] = xi",
      "numerator.Mul(xi)",
      "}",
      "return scalars, numerator" ] := rfl

/-- [C01] ties Alg.lagrange, LagrangeSingle -/
theorem gen_lagrangeWrappers : MpsGen.Alg.lagrangeWrappers =
    [ "LagrangeFor(group, interpolationDomain, interpolationDomain...)",
      "LagrangeFor(group, interpolationDomain, j)[j]" ] := rfl

/-- [C01] ties the MtA convention behind the hypothesis α + β = a·b: D = enc(a·b + BetaNeg), Beta = −BetaNeg -/
theorem gen_mtaNew : MpsGen.Alg.mtaNew =
    [ "BetaNeg = sample.IntervalLPrime(rand.Reader)",
      "F, R = sender.Enc(BetaNeg)",
      "D, S = receiver.Enc(BetaNeg)",
      "tmp := receiverEncryptedShare.Clone().Mul(receiver, senderSecretShare)",
      "D.Add(receiver, tmp)",
      "return",
      "Beta = BetaNeg.Neg(1)" ] := rfl

/-- [C02] ties Alg.expOfPoly -/
theorem gen_newPolynomialExponent : MpsGen.Alg.newPolynomialExponent =
    [ "p := &Exponent{ group: polynomial.group, IsConstant: polynomial.coefficients[0].IsZero(), coefficients: make([]curve.Point, 0, len(polynomial.coefficients)), }",
      "range i, c := polynomial.coefficients {",
      "if p.IsConstant && i == 0 {",
      "continue",
      "}",
      "p.coefficients = append(p.coefficients, c.ActOnBase())",
      "}",
      "return p" ] := rfl

/-- [C02] ties Alg.evalPoly / evalPolyChecked: Horner, panic at 0 -/
theorem gen_polyEvaluate : MpsGen.Alg.polyEvaluate =
    [ "if index.IsZero() {",
      "panic(\"attempt to leak secret\")",
      "}",
      "result := p.group.NewScalar()",
      "for i := len(p.coefficients) - 1; i >= 0; i-- {",
      "result.Mul(index).Add(p.coefficients[i])",
      "}",
      "return result" ] := rfl

/-- [C01] ties Alg.presigSigmaShare, ecdsaAssemble, presigShareCheck -/
theorem gen_presigShare : MpsGen.Alg.presigShare =
    [ "m := curve.FromHash(sig.Group(), hash)",
      "r := sig.R.XScalar()",
      "mk := m.Mul(sig.KShare)",
      "rx := r.Mul(sig.ChiShare)",
      "sigma := mk.Add(rx)",
      "return sigma",
      "s := sig.Group().NewScalar()",
      "s.Add(sigma)",
      "r := sig.R.XScalar()",
      "m := curve.FromHash(sig.Group(), hash)",
      "lhs := share.Act(sig.R)",
      "rhs := m.Act(Rj).Add(r.Act(Sj))",
      "if !lhs.Equal(rhs) {" ] := rfl

/-- [C01] ties secpOps: SetNat reduces mod n, Invert = InverseNonConst, XScalar = x mod n -/
theorem gen_scalarSetNat : MpsGen.Alg.scalarSetNat =
    [ "reduced := new(saferith.Nat).Mod(x, secp256k1Order)",
      "s.value.SetByteSlice(reduced.Bytes())",
      "return s",
      "s.value.InverseNonConst()",
      "return s",
      "out := new(Secp256k1Scalar)",
      "p.value.ToAffine()",
      "out.value.SetBytes(p.value.X.Bytes())",
      "return out" ] := rfl

/-- [C08] ties Alg.finalShare as a PURE function of the previous share: on refresh the rounds work on a copy
    (`NewScalar().Set(privateShare)`, since 8e08e3b), so the caller's old config is not modified -/
theorem gen_frostRefreshStart : MpsGen.Alg.frostRefreshStart =
    [ "if privateShare != nil && publicKey != nil {",
      "refresh := true",
      "if privateShare != nil && publicKey != nil {",
      "privateShare = group.NewScalar().Set(privateShare)",
      "if privateShare == nil || publicKey == nil {",
      "refresh = false",
      "privateShare = group.NewScalar()",
      "publicKey = group.NewPoint()" ] := rfl

end Mps.AlgGen
