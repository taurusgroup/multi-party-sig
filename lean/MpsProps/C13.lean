import MpsProps.Anchors.C13
import MpsProofs.OTBits
import MpsProofs.OTRandom
import MpsProofs.OTClmul
import MpsProofs.OTExtend
import MpsProofs.OTAlgebra
import MpsProofs.OTMaskLoop
import Mps.OT.Concrete
import MpsGen.OT
import Mathlib.Data.ZMod.Basic
import Mathlib.Algebra.Field.ZMod
/-
  C13 — OT-based multiplication is correct for all inputs.
  Property theorems only (lemmas live in MpsProofs/OT*.lean).

  The model (lean/Mps/OT) is written once over records of operations (`FieldOps`, `GroupOps`) and
  abstract hash / PRG functions (`OTHash`, the keyed hash `H` of a random OT). It is EXECUTED with
  scalars mod the secp256k1 order, the secp256k1 model and BLAKE3 in the correspondence run
  (suite `ot`: every layer of internal/ot recomputed bit-exactly) and PROVED about here with a
  lawful commutative ring / module and arbitrary functions in place of the hashes.
  No theorem needs Mathlib.Algebra.Field.ZMod; with it the ring on `ZMod 3` in `trivialHash` is found through `ZMod.instField`,
  without it through `ZMod.commRing`.
-/
namespace Mps.C13
open Mps.OT

/-- bits.go `bitAt` (byte-level transcription) is `testBit` of the little-endian value: the
    representation of bit vectors by natural numbers used throughout the model is faithful. -/
theorem bitat_spec (i : Nat) (data : Bytes) :
    bitAtBytes i data = if (leNat data).testBit i then 1 else 0 := bitAtBytes_eq i data

/-- `transposeBits`: bit `j` of row `i` is bit `i` of column `j`, for every row of the batch. -/
theorem transpose_spec (l : Nat) (M : List Nat) (i j : Nat) (hi : i < l) (hj : j < otParam) :
    bitAt j ((transposeBits l M).getD i 0) = bitAt i (M.getD j 0) := Mps.OT.transpose_spec l M i j hi hj

/-- `accumulate`: the coded two-lane shift-and-xor loop over four 64-bit words (with its 256-bit
    truncating shift) computes the product in GF(2)[X] of its 128-bit arguments. -/
theorem accumulate_is_gf2_product (f a b : Nat) (ha : a < 2 ^ 128) (hb : b < 2 ^ 128) :
    toPoly (accumulate f a b) = toPoly f + toPoly a * toPoly b := toPoly_accumulate f a b ha hb

/-- … hence it is XOR-linear in each argument and symmetric. -/
theorem clmul_bilinear (a a' b b' : Nat) (ha : a < 2 ^ 128) (ha' : a' < 2 ^ 128) (hb : b < 2 ^ 128)
    (hb' : b' < 2 ^ 128) :
    clmulCoded (a ^^^ a') b = clmulCoded a b ^^^ clmulCoded a' b ∧
    clmulCoded a (b ^^^ b') = clmulCoded a b ^^^ clmulCoded a b' ∧
    clmulCoded a b = clmulCoded b a := Mps.OT.clmul_bilinear a a' b b' ha ha' hb hb'

section group
variable {F G : Type} [CommRing F] [AddCommGroup G] [Module F G]
variable (base : G) (enc : G → Bytes) (dec : Bytes → Option G)

/-- The receiver's pad is the sender's pad for the chosen bit. -/
theorem random_ot_pad_agree (hdec : ∀ P, dec (enc P) = some P) (H : Bytes → Nat) (b a : F) (choice : Bool) :
    let Gp : GroupOps F G := lawfulGroup base enc dec
    let s := rotSetupSend Gp b
    let r1 := rotRecvRound1 Gp H s.B choice a
    ∃ ch st, rotSendRound1 Gp H s r1.1 = some (ch, st) ∧
      r1.2 = (if choice then st.rand1 else st.rand0) := by
  obtain ⟨ch, st, h1, h2, _⟩ := Mps.OT.random_ot_pad_agree base enc dec hdec H b a choice
  exact ⟨ch, st, h1, h2⟩

/-- An honest instance passes the sender's response check and both of the receiver's
    decommitment checks, and ends with agreeing pads. -/
theorem random_ot_response_complete (hdec : ∀ P, dec (enc P) = some P) (H : Bytes → Nat) (b a : F)
    (choice : Bool) :
    let Gp : GroupOps F G := lawfulGroup base enc dec
    ∃ t, rotRun Gp H (rotSetupSend Gp b) choice a = some t ∧
      t.randChoice = (if choice then t.rand1 else t.rand0) :=
  Mps.OT.random_ot_response_complete base enc dec hdec H b a choice

/-- The correlated-OT setup (OTParam random OTs with the bits of Δ as choices, any per-instance
    hashes) completes and leaves the sender with K_Δ[i] = K_{Δ_i}[i] for every column. -/
theorem corre_setup_rel (hdec : ∀ P, dec (enc P) = some P) (Hn : Nat → Bytes → Nat) (zero b : F)
    (delta : Nat) (hd : delta < 2 ^ otParam) (as : List F) :
    ∃ ss rs, correSetup (lawfulGroup base enc dec) Hn zero b delta as = some (ss, rs) ∧ SetupRel ss rs :=
  Mps.OT.corre_setup_rel base enc dec hdec Hn zero b delta hd as
end group

section layers
variable {F : Type}

theorem corre_relation (h : OTHash F) (ss : CorreSendSetup) (rs : CorreRecvSetup) (hrel : SetupRel ss rs)
    (l x j : Nat) (hj : j < l) :
    (correSend h ss l (correReceive h rs l x).1).getD j 0
      = (correReceive h rs l x).2.getD j 0 ^^^ maskBit (x.testBit j) ss.delta :=
  Mps.OT.corre_relation h ss rs hrel l x j hj

theorem kos_check_complete (h : OTHash F) (hchi : ChiOK h) (ss : CorreSendSetup) (rs : CorreRecvSetup)
    (hrel : SetupRel ss rs) (l choices extra : Nat) :
    extSend h ss l (extReceive h rs l choices extra).1
      = some (senderPads h ss l (extReceive h rs l choices extra).1.U) :=
  Mps.OT.kos_check_complete h hchi ss rs hrel l choices extra

theorem ext_ot_choice (h : OTHash F) (ss : CorreSendSetup) (rs : CorreRecvSetup) (hrel : SetupRel ss rs)
    (l choices extra i : Nat) (hi : i < l) :
    (extReceive h rs l choices extra).2.getD i 0 =
      if choices.testBit i then (senderPads h ss l (extReceive h rs l choices extra).1.U).2.getD i 0
      else (senderPads h ss l (extReceive h rs l choices extra).1.U).1.getD i 0 :=
  Mps.OT.ext_ot_choice h ss rs hrel l choices extra i hi
end layers

section ring
variable {F : Type} [CommRing F] [DecidableEq F] (repr : F → Nat)

/-- recvᵢ + sendᵢ = cᵢ·α (both components) -/
theorem additive_sum (h : OTHash F) (V0 V1 VC : List Nat) (l : Nat) (choices : Nat) (alpha : F × F)
    (hvc : ∀ i, i < l → VC.getD i 0 = if choices.testBit i then V1.getD i 0 else V0.getD i 0)
    (i : Nat) (hi : i < l) :
    let sr := additiveSend (lawful F repr) h V0 V1 l alpha
    let recv := additiveRecv (lawful F repr) h VC l choices sr.1
    (recv.getD i (0, 0)).1 + (sr.2.getD i (0, 0)).1 = (if choices.testBit i then alpha.1 else 0) ∧
    (recv.getD i (0, 0)).2 + (sr.2.getD i (0, 0)).2 = (if choices.testBit i then alpha.2 else 0) :=
  Mps.OT.additive_sum repr h V0 V1 VC l choices alpha hvc i hi

/-- Σᵢ cᵢ·gᵢ = β for the choice bits `encode` produces, in the code's bit order, for every γ -/
theorem gadget_encode_sum (hr : ReprOK repr) (h : OTHash F) (hn : (h.noise noiseLen).length = noiseLen)
    (beta : F) (gamma : Nat) :
    let gadget := makeGadget (lawful F repr) h
    let choices := encode (lawful F repr) beta (gadget.drop scalarBits) gamma
    (∑ i ∈ Finset.range gadgetLen, (if choices.testBit i then (1 : F) else 0) * gadget.getD i 0) = beta :=
  Mps.OT.gadget_encode_sum repr hr h hn beta gamma

/-- Headline (on any correct setup). For all α, β, all encoding bits γ, all extra choice bits,
    any second pad scalar α₁ and ANY hash / PRG outputs: the honest multiplication aborts nowhere
    and share_S + share_R = α·β. -/
theorem multiply_correct_of_setup (hr : ReprOK repr) (h : OTHash F) (hchi : ChiOK h)
    (hn : (h.noise noiseLen).length = noiseLen) (ss : CorreSendSetup) (rs : CorreRecvSetup)
    (hrel : SetupRel ss rs) (alpha alpha1 beta : F) (gamma extra : Nat) :
    ∃ shareS shareR, multiplyRun (lawful F repr) h ss rs alpha alpha1 beta gamma extra = some (shareS, shareR) ∧
      shareS + shareR = alpha * beta :=
  Mps.OT.multiply_correct_of_setup repr hr h hchi hn ss rs hrel alpha alpha1 beta gamma extra

/-- Headline (whole stack). Random-OT setup in any lawful group with any hashes, then the
    multiplication with any hash / PRG outputs: for all inputs and all sampled values the setup
    completes, the multiplication completes and the two outputs add up to the product. -/
theorem multiply_correct {G : Type} [AddCommGroup G] [Module F G] (base : G) (enc : G → Bytes)
    (dec : Bytes → Option G) (hdec : ∀ P, dec (enc P) = some P) (Hn : Nat → Bytes → Nat)
    (hr : ReprOK repr) (h : OTHash F) (hchi : ChiOK h) (hn : (h.noise noiseLen).length = noiseLen)
    (b : F) (delta : Nat) (hd : delta < 2 ^ otParam) (as : List F)
    (alpha alpha1 beta : F) (gamma extra : Nat) :
    ∃ ss rs shareS shareR,
      correSetup (lawfulGroup base enc dec) Hn 0 b delta as = some (ss, rs) ∧
      multiplyRun (lawful F repr) h ss rs alpha alpha1 beta gamma extra = some (shareS, shareR) ∧
      shareS + shareR = alpha * beta := by
  obtain ⟨ss, rs, h1, hrel⟩ := Mps.OT.corre_setup_rel base enc dec hdec Hn 0 b delta hd as
  obtain ⟨sS, sR, h2, h3⟩ :=
    Mps.OT.multiply_correct_of_setup repr hr h hchi hn ss rs hrel alpha alpha1 beta gamma extra
  exact ⟨ss, rs, sS, sR, h1, h2, h3⟩
end ring

/-- The masking loops of `AdditiveOTReceiver.Round2` are in range for every batch. The loop takes its
    bound from pad `i` itself: for any number of pads, any pad lengths and every pad index of the batch it
    ends normally after masking exactly the bytes of pad `i` (`none` would be a Go index-out-of-range
    panic). So `additive_sum` — which is about the scalar-level function the loops compute when in range —
    applies to every batch size. -/
theorem additive_mask_loop_in_range (lens : List Nat) (i : Nat) (hi : i < lens.length) (fuel : Nat)
    (hf : lens[i] ≤ fuel) :
    maskLoopCoded lens i fuel 0 = some lens[i] :=
  maskLoopCoded_of_le lens i hi fuel 0 (Nat.zero_le _) hf

/-- Witness of the defect repaired by /repo commit eab5a8f: the loop before that commit (bound taken
    from pad number `j`, the byte counter) stays in range on an honest message iff the batch has at
    least 33 pads; every smaller honest batch panics. -/
theorem additive_mask_loop_range_old (n i : Nat) (hi : i < n) :
    maskLoopCodedOld (List.replicate n 32) i 64 0 = if 33 ≤ n then some 32 else none :=
  Mps.OT.additive_mask_loop_range_old n i hi

section domain
variable {F : Type} [CommRing F] [IsDomain F] [DecidableEq F] (repr : F → Nat)

/-- The honest sender's message reaches the receiver with ONE field changed: the value of one
    component of one combined pad, of one entry of RCheck, or of UCheck (any new value), or the
    LENGTH of CombinedPads or of RCheck (truncated, extended, any other vector). Then the receiver's
    second round ends in an error ("malformed message" / "incorrect batch size" / "integrity check
    failed") or returns exactly the share of the unaltered run — so the two outputs still add up to
    α·β. Needs only χ₀ ≠ 0. -/
theorem multiply_single_alteration (h : OTHash F) (hchi : ChiOK h) (ss : CorreSendSetup)
    (rs : CorreRecvSetup) (hrel : SetupRel ss rs) (alpha alpha1 beta : F) (gamma extra : Nat)
    (hchi0 : (h.mchi (mulReceiverRound1 (lawful F repr) h rs beta gamma extra).2.1.U).1 ≠ 0) :
    let r1 := mulReceiverRound1 (lawful F repr) h rs beta gamma extra
    ∃ m shareS, mulSenderRound1 (lawful F repr) h ss (alpha, alpha1) r1.2.1 = some (m, shareS) ∧
      ∀ m', SingleAlt m m' →
        mulReceiverRound2 (lawful F repr) h r1.1 r1.2.1.U r1.2.2 m' = none ∨
        mulReceiverRound2 (lawful F repr) h r1.1 r1.2.1.U r1.2.2 m'
          = mulReceiverRound2 (lawful F repr) h r1.1 r1.2.1.U r1.2.2 m :=
  Mps.OT.multiply_single_alteration_run repr h hchi ss rs hrel alpha alpha1 beta gamma extra hchi0
end domain

/-! ### Obligations over the tables regenerated from the source (the translator tie) -/

/-- the constants the model fixes are the ones of internal/params -/
theorem gen_params :
    "OTParam = 128" ∈ MpsGen.OT.params ∧ "OTBytes = OTParam / 8" ∈ MpsGen.OT.params ∧
    "StatParam = 80" ∈ MpsGen.OT.params ∧
    otParam = 128 ∧ otBytes = otParam / 8 ∧ statParam = 80 ∧ gadgetLen = 672 ∧ inflate gadgetLen = 880 := by
  decide

-- BEGIN statement tables (bin/c13-bless rewrites this block after a REVIEWED source change)
/-- `fieldElement` is 2·OTBytes/8 = 4 words: the 256-bit scratch of `accumulate` -/
theorem gen_extConsts : MpsGen.OT.extConsts = [
    "fieldElementLen = 2 * params.OTBytes / 8" ] := rfl

/-- `bitAt` as transcribed by `bitAtBytes` -/
theorem gen_bitAt : MpsGen.OT.bitAt = [
    "return (data[i>>3] >> (i & 0b111)) & 1" ] := rfl

/-- `transposeBits` as transcribed by `transposeRow` / `transposeBits` -/
theorem gen_transposeBits : MpsGen.OT.transposeBits = [
    "MT := make([][params.OTBytes]byte, l)",
    "for i := 0; i < l; i++ {",
    "for j := 0; j < params.OTParam; j++ {",
    "MT[i][j>>3] |= bitAt(i, M[j]) << (j & 0b111)",
    "}",
    "}",
    "return MT" ] := rfl

/-- `shl1`: a 4-word left shift by one (`Mps.OT.shl1`) -/
theorem gen_shl1 : MpsGen.OT.shl1 = [
    "for i := fieldElementLen - 1; i > 0; i-- {",
    "f[i] = (f[i] << 1) | (f[i-1] >> 63)",
    "}",
    "f[0] <<= 1" ] := rfl

/-- `accumulate`: the loop transcribed by `accStep` / `accLoop` / `accumulate` -/
theorem gen_accumulate : MpsGen.OT.accumulate = [
    "var b64 [params.OTBytes / 8]uint64",
    "for i := 0; i < len(b64); i++ {",
    "b64[i] = binary.LittleEndian.Uint64(b[8*i : 8*(i+1)])",
    "}",
    "var a64 [params.OTBytes / 8]uint64",
    "for i := 0; i < len(a64); i++ {",
    "a64[i] = binary.LittleEndian.Uint64(a[8*i : 8*(i+1)])",
    "}",
    "var scratch fieldElement",
    "for i := 0; i < fieldElementLen; i++ {",
    "scratch[i] = 0",
    "}",
    "for i := 63; i >= 0; i-- {",
    "for j := 0; j < len(b64); j++ {",
    "mask := -((a64[j] >> i) & 1)",
    "for k := 0; k < len(b64); k++ {",
    "scratch[j+k] ^= mask & b64[k]",
    "}",
    "}",
    "if i != 0 {",
    "scratch.shl1()",
    "}",
    "}",
    "for i := 0; i < fieldElementLen; i++ {",
    "f[i] ^= scratch[i]",
    "}" ] := rfl

/-- the statements of the Go function the model transcribes -/
theorem gen_rotSetupSend : MpsGen.OT.rotSetupSend = [
    "b := sample.Scalar(rand.Reader, group)",
    "B := b.ActOnBase()",
    "BProof := zksch.NewProof(hash, B, b, nil)",
    "return &RandomOTSetupSendMessage{B: B, BProof: BProof}, &RandomOTSendSetup{_B: B, b: b, _bB: b.Act(B)}" ] := rfl

/-- the statements of the Go function the model transcribes -/
theorem gen_rotRecvRound1 : MpsGen.OT.rotRecvRound1 = [
    "a := sample.Scalar(rand.Reader, r.group)",
    "A := a.ActOnBase()",
    "outMsg.ABytes, err = A.MarshalBinary()",
    "if err != nil {",
    "return",
    "}",
    "A = A.Add(r._B)",
    "_APlusBBytes, err := A.MarshalBinary()",
    "if err != nil {",
    "return outMsg, err",
    "}",
    "mask := -byte(r.choice)",
    "for i := 0; i < len(outMsg.ABytes) && i < len(_APlusBBytes); i++ {",
    "outMsg.ABytes[i] ^= (mask & (outMsg.ABytes[i] ^ _APlusBBytes[i]))",
    "}",
    "abBytes, err := a.Act(r._B).MarshalBinary()",
    "if err != nil {",
    "return outMsg, err",
    "}",
    "_, _ = r.hash.Write(abBytes)",
    "_, _ = r.hash.Digest().Read(r.randChoice[:])",
    "return" ] := rfl

/-- the statements of the Go function the model transcribes -/
theorem gen_rotRecvRound2 : MpsGen.OT.rotRecvRound2 = [
    "r.receivedChallenge = msg.Challenge",
    "r.hash.Reset()",
    "_, _ = r.hash.Write(r.randChoice[:])",
    "_, _ = r.hash.Digest().Read(outMsg.Response[:])",
    "r.hash.Reset()",
    "_, _ = r.hash.Write(outMsg.Response[:])",
    "_, _ = r.hash.Digest().Read(outMsg.Response[:])",
    "copy(r.hh_randChoice[:], outMsg.Response[:])",
    "mask := -byte(r.choice)",
    "for i := 0; i < len(msg.Challenge); i++ {",
    "outMsg.Response[i] ^= mask & msg.Challenge[i]",
    "}",
    "return" ] := rfl

/-- the statements of the Go function the model transcribes -/
theorem gen_rotRecvRound3 : MpsGen.OT.rotRecvRound3 = [
    "var actualChallenge, h_decommit0, h_decommit1 [params.OTBytes]byte",
    "r.hash.Reset()",
    "_, _ = r.hash.Write(msg.Decommit0[:])",
    "_, _ = r.hash.Digest().Read(h_decommit0[:])",
    "r.hash.Reset()",
    "_, _ = r.hash.Write(msg.Decommit1[:])",
    "_, _ = r.hash.Digest().Read(h_decommit1[:])",
    "for i := 0; i < params.OTBytes; i++ {",
    "actualChallenge[i] = h_decommit0[i] ^ h_decommit1[i]",
    "}",
    "if subtle.ConstantTimeCompare(r.receivedChallenge[:], actualChallenge[:]) != 1 {",
    "return r.randChoice, fmt.Errorf(\"RandomOTReceive Round 3: incorrect decommitment\")",
    "}",
    "h_decommitChoice := h_decommit0",
    "mask := -byte(r.choice)",
    "for i := 0; i < params.OTBytes; i++ {",
    "h_decommitChoice[i] ^= mask & (h_decommitChoice[i] ^ h_decommit1[i])",
    "}",
    "if subtle.ConstantTimeCompare(h_decommitChoice[:], r.hh_randChoice[:]) != 1 {",
    "return r.randChoice, fmt.Errorf(\"RandomOTReceive Round 3: incorrect decommitment\")",
    "}",
    "return r.randChoice, nil" ] := rfl

/-- the statements of the Go function the model transcribes -/
theorem gen_rotSendRound1 : MpsGen.OT.rotSendRound1 = [
    "_A := r.group.NewPoint()",
    "if err = _A.UnmarshalBinary(msg.ABytes); err != nil {",
    "return",
    "}",
    "bA := r.b.Act(_A)",
    "r.hash.Reset()",
    "bABytes, err := bA.MarshalBinary()",
    "if err != nil {",
    "return outMsg, err",
    "}",
    "_, _ = r.hash.Write(bABytes)",
    "_, _ = r.hash.Digest().Read(r.rand0[:])",
    "r.hash.Reset()",
    "bAMinusBBytes, err := bA.Sub(r._bB).MarshalBinary()",
    "if err != nil {",
    "return outMsg, err",
    "}",
    "_, _ = r.hash.Write(bAMinusBBytes)",
    "_, _ = r.hash.Digest().Read(r.rand1[:])",
    "r.hash.Reset()",
    "_, _ = r.hash.Write(r.rand0[:])",
    "_, _ = r.hash.Digest().Read(r.decommit0[:])",
    "r.hash.Reset()",
    "_, _ = r.hash.Write(r.rand1[:])",
    "_, _ = r.hash.Digest().Read(r.decommit1[:])",
    "r.hash.Reset()",
    "_, _ = r.hash.Write(r.decommit0[:])",
    "_, _ = r.hash.Digest().Read(r.h_decommit0[:])",
    "r.hash.Reset()",
    "_, _ = r.hash.Write(r.decommit1[:])",
    "_, _ = r.hash.Digest().Read(outMsg.Challenge[:])",
    "for i := 0; i < params.OTBytes; i++ {",
    "outMsg.Challenge[i] ^= r.h_decommit0[i]",
    "}",
    "return" ] := rfl

/-- the statements of the Go function the model transcribes -/
theorem gen_rotSendRound2 : MpsGen.OT.rotSendRound2 = [
    "if subtle.ConstantTimeCompare(msg.Response[:], r.h_decommit0[:]) != 1 {",
    "return outMsg, res, fmt.Errorf(\"RandomOTSender Round2: invalid response\")",
    "}",
    "outMsg.Decommit0 = r.decommit0",
    "outMsg.Decommit1 = r.decommit1",
    "res.Rand0 = r.rand0",
    "res.Rand1 = r.rand1",
    "return" ] := rfl

/-- the statements of the Go function the model transcribes -/
theorem gen_correSetupSenderRound1 : MpsGen.OT.correSetupSenderRound1 = [
    "var err error",
    "r.setup, err = RandomOTSetupReceive(r.hash, &msg.Msg)",
    "if err != nil {",
    "return nil, err",
    "}",
    "_, _ = rand.Read(r._Delta[:])",
    "randomOTNonces := r.hash.Fork(&hash.BytesWithDomain{ TheDomain: \"CorreOT Random OT Nonces\", Bytes: nil, }).Digest()",
    "for i := 0; i < params.OTParam; i++ {",
    "choice := saferith.Choice(bitAt(i, r._Delta[:]))",
    "nonce := make([]byte, 32)",
    "_, _ = randomOTNonces.Read(nonce)",
    "r.randomOTReceivers[i] = NewRandomOTReceiver(nonce, r.setup, choice)",
    "}",
    "outMsg := new(CorreOTSetupSendRound1Message)",
    "errors := r.pl.Parallelize(params.OTParam, func(i int) interface{} { var err error outMsg.Msgs[i], err = r.randomOTReceivers[i].Round1() return err })",
    "for _, err := range errors {",
    "if err != nil {",
    "return outMsg, err.(error)",
    "}",
    "}",
    "return outMsg, nil" ] := rfl

/-- the statements of the Go function the model transcribes -/
theorem gen_correSetupSenderRound3 : MpsGen.OT.correSetupSenderRound3 = [
    "setup := new(CorreOTSendSetup)",
    "setup._Delta = r._Delta",
    "var err error",
    "for i := 0; i < params.OTParam; i++ {",
    "setup._K_Delta[i], err = r.randomOTReceivers[i].Round3(&msg.Msgs[i])",
    "if err != nil {",
    "return nil, err",
    "}",
    "}",
    "return setup, nil" ] := rfl

/-- the statements of the Go function the model transcribes -/
theorem gen_correSetupReceiverRound3 : MpsGen.OT.correSetupReceiverRound3 = [
    "outMsg := new(CorreOTSetupReceiveRound3Message)",
    "setup := new(CorreOTReceiveSetup)",
    "for i := 0; i < params.OTParam; i++ {",
    "msgsi, resultsi, err := r.randomOTSenders[i].Round2(&msg.Msgs[i])",
    "if err != nil {",
    "return nil, nil, err",
    "}",
    "outMsg.Msgs[i] = msgsi",
    "setup._K_0[i] = resultsi.Rand0",
    "setup._K_1[i] = resultsi.Rand1",
    "}",
    "return outMsg, setup, nil" ] := rfl

/-- the statements of the Go function the model transcribes -/
theorem gen_correSend : MpsGen.OT.correSend = [
    "batchSizeBytes := batchSize >> 3",
    "if msg == nil {",
    "return nil, errors.New(\"CorreOTSend: missing message\")",
    "}",
    "prgKey := make([]byte, 32)",
    "_, _ = ctxHash.Fork(&hash.BytesWithDomain{TheDomain: \"CorreOT PRG Key\", Bytes: nil}).Digest().Read(prgKey)",
    "prg, _ := blake3.NewKeyed(prgKey)",
    "var Q [params.OTParam][]byte",
    "for i := 0; i < params.OTParam; i++ {",
    "if len(msg.U[i]) != batchSizeBytes {",
    "return nil, errors.New(\"CorreOTSend: incorrect batch size in message\")",
    "}",
    "prg.Reset()",
    "_, _ = prg.Write(setup._K_Delta[i][:])",
    "Q[i] = make([]byte, batchSizeBytes)",
    "_, _ = prg.Digest().Read(Q[i])",
    "mask := -bitAt(i, setup._Delta[:])",
    "for j := 0; j < batchSizeBytes; j++ {",
    "Q[i][j] ^= mask & msg.U[i][j]",
    "}",
    "}",
    "return &CorreOTSendResult{_U: msg.U, _Q: transposeBits(batchSize, &Q)}, nil" ] := rfl

/-- the statements of the Go function the model transcribes -/
theorem gen_correReceive : MpsGen.OT.correReceive = [
    "batchSizeBytes := len(choices)",
    "prgKey := make([]byte, 32)",
    "_, _ = ctxHash.Fork(&hash.BytesWithDomain{TheDomain: \"CorreOT PRG Key\", Bytes: nil}).Digest().Read(prgKey)",
    "prg, _ := blake3.NewKeyed(prgKey)",
    "outMsg := new(CorreOTReceiveMessage)",
    "var T0, T1 [params.OTParam][]byte",
    "for i := 0; i < params.OTParam; i++ {",
    "prg.Reset()",
    "_, _ = prg.Write(setup._K_0[i][:])",
    "T0[i] = make([]byte, batchSizeBytes)",
    "_, _ = prg.Digest().Read(T0[i])",
    "prg.Reset()",
    "_, _ = prg.Write(setup._K_1[i][:])",
    "T1[i] = make([]byte, batchSizeBytes)",
    "_, _ = prg.Digest().Read(T1[i])",
    "outMsg.U[i] = make([]byte, batchSizeBytes)",
    "for j := 0; j < batchSizeBytes; j++ {",
    "outMsg.U[i][j] = T0[i][j] ^ T1[i][j] ^ choices[j]",
    "}",
    "}",
    "return outMsg, &CorreOTReceiveResult{_T: transposeBits(8*batchSizeBytes, &T0)}" ] := rfl

/-- the statements of the Go function the model transcribes -/
theorem gen_extSend : MpsGen.OT.extSend = [
    "inflatedBatchSize := batchSize + params.OTParam + params.StatParam",
    "if msg == nil || msg.CorreMsg == nil {",
    "return nil, fmt.Errorf(\"ExtendedOTSend: nil message\")",
    "}",
    "correResult, err := CorreOTSend(ctxHash, setup, inflatedBatchSize, msg.CorreMsg)",
    "if err != nil {",
    "return nil, err",
    "}",
    "for i := 0; i < params.OTParam; i++ {",
    "ctxHash.WriteAny(correResult._U[i])",
    "}",
    "chi := make([][params.OTBytes]byte, inflatedBatchSize)",
    "digest := ctxHash.Digest()",
    "for i := 0; i < len(chi); i++ {",
    "_, _ = digest.Read(chi[i][:])",
    "}",
    "var q fieldElement",
    "for i := 0; i < len(chi); i++ {",
    "q.accumulate(&correResult._Q[i], &chi[i])",
    "}",
    "q.accumulate(&msg.X, &setup._Delta)",
    "if !q.eq(&msg.T) {",
    "return nil, fmt.Errorf(\"ExtendedOTSend: monochrome check failed\")",
    "}",
    "V0 := make([][params.OTBytes]byte, batchSize)",
    "V1 := make([][params.OTBytes]byte, batchSize)",
    "hasher := blake3.New()",
    "ctr := make([]byte, 4)",
    "for i := 0; i < batchSize; i++ {",
    "binary.BigEndian.PutUint32(ctr, uint32(i))",
    "hasher.Reset()",
    "hasher.Write(ctr)",
    "hasher.Write(correResult._Q[i][:])",
    "hasher.Digest().Read(V0[i][:])",
    "for j := 0; j < params.OTBytes; j++ {",
    "correResult._Q[i][j] ^= setup._Delta[j]",
    "}",
    "hasher.Reset()",
    "hasher.Write(ctr)",
    "hasher.Write(correResult._Q[i][:])",
    "hasher.Digest().Read(V1[i][:])",
    "}",
    "return &ExtendedOTSendResult{_V0: V0, _V1: V1}, nil" ] := rfl

/-- the statements of the Go function the model transcribes -/
theorem gen_extReceive : MpsGen.OT.extReceive = [
    "inflatedBatchSize := 8*len(choices) + params.OTParam + params.StatParam",
    "extraChoices := make([]byte, inflatedBatchSize/8)",
    "copy(extraChoices, choices)",
    "_, _ = rand.Read(extraChoices[len(choices):])",
    "correMsg, correResult := CorreOTReceive(ctxHash, setup, extraChoices)",
    "for i := 0; i < params.OTParam; i++ {",
    "ctxHash.WriteAny(correMsg.U[i])",
    "}",
    "outMsg := new(ExtendedOTReceiveMessage)",
    "outMsg.CorreMsg = correMsg",
    "chi := make([][params.OTBytes]byte, inflatedBatchSize)",
    "digest := ctxHash.Digest()",
    "for i := 0; i < len(chi); i++ {",
    "_, _ = digest.Read(chi[i][:])",
    "}",
    "for i := 0; i < len(chi); i++ {",
    "mask := -bitAt(i, extraChoices)",
    "for j := 0; j < params.OTBytes; j++ {",
    "outMsg.X[j] ^= mask & chi[i][j]",
    "}",
    "}",
    "for i := 0; i < len(chi) && i < len(correResult._T); i++ {",
    "outMsg.T.accumulate(&correResult._T[i], &chi[i])",
    "}",
    "VChoices := make([][params.OTBytes]byte, 8*len(choices))",
    "hasher := blake3.New()",
    "ctr := make([]byte, 4)",
    "for i := 0; i < len(VChoices); i++ {",
    "hasher.Reset()",
    "binary.BigEndian.PutUint32(ctr, uint32(i))",
    "_, _ = hasher.Write(ctr)",
    "_, _ = hasher.Write(correResult._T[i][:])",
    "_, _ = hasher.Digest().Read(VChoices[i][:])",
    "}",
    "return outMsg, &ExtendedOTReceiveResult{_VChoices: VChoices}" ] := rfl

/-- the statements of the Go function the model transcribes -/
theorem gen_additiveSend : MpsGen.OT.additiveSend = [
    "if msg == nil || msg.Msg == nil {",
    "return nil, nil, errors.New(\"AdditiveOTSender Round1: nil message\")",
    "}",
    "extendedResult, err := ExtendedOTSend(r.ctxHash, r.setup, r.batchSize, msg.Msg)",
    "if err != nil {",
    "return nil, nil, err",
    "}",
    "prg := blake3.New()",
    "outMsg := new(AdditiveOTSendRound1Message)",
    "outMsg.CombinedPads = make([][2][]byte, r.batchSize)",
    "result := make([][2]curve.Scalar, r.batchSize)",
    "var combinedPads [2]curve.Scalar",
    "for i := 0; i < r.batchSize; i++ {",
    "prg.Reset()",
    "_, _ = prg.Write(extendedResult._V0[i][:])",
    "digest := prg.Digest()",
    "result[i][0] = sample.Scalar(digest, r.group)",
    "result[i][1] = sample.Scalar(digest, r.group)",
    "prg.Reset()",
    "_, _ = prg.Write(extendedResult._V1[i][:])",
    "digest = prg.Digest()",
    "combinedPads[0] = sample.Scalar(digest, r.group)",
    "combinedPads[1] = sample.Scalar(digest, r.group)",
    "combinedPads[0].Sub(result[i][0]).Add(r.alpha[0])",
    "combinedPads[1].Sub(result[i][1]).Add(r.alpha[1])",
    "var err error",
    "outMsg.CombinedPads[i][0], err = combinedPads[0].MarshalBinary()",
    "if err != nil {",
    "return nil, nil, err",
    "}",
    "outMsg.CombinedPads[i][1], err = combinedPads[1].MarshalBinary()",
    "if err != nil {",
    "return nil, nil, err",
    "}",
    "}",
    "return outMsg, result, nil" ] := rfl

/-- the statements of the Go function the model transcribes -/
theorem gen_additiveRecv : MpsGen.OT.additiveRecv = [
    "batchSize := 8 * len(r.choices)",
    "if msg == nil || len(msg.CombinedPads) != batchSize {",
    "return nil, errors.New(\"AdditiveOTReceiver Round2: incorrect batch size in message\")",
    "}",
    "result := make([][2]curve.Scalar, batchSize)",
    "prg := blake3.New()",
    "for i := 0; i < batchSize; i++ {",
    "mask := -bitAt(i, r.choices)",
    "prg.Reset()",
    "_, _ = prg.Write(r.result._VChoices[i][:])",
    "digest := prg.Digest()",
    "result[i][0] = sample.Scalar(digest, r.group).Negate()",
    "result[i][1] = sample.Scalar(digest, r.group).Negate()",
    "for j := 0; j < len(msg.CombinedPads[i][0]); j++ {",
    "msg.CombinedPads[i][0][j] &= mask",
    "}",
    "for j := 0; j < len(msg.CombinedPads[i][1]); j++ {",
    "msg.CombinedPads[i][1][j] &= mask",
    "}",
    "combinedPad0 := r.group.NewScalar()",
    "if err := combinedPad0.UnmarshalBinary(msg.CombinedPads[i][0]); err != nil {",
    "return nil, err",
    "}",
    "combinedPad1 := r.group.NewScalar()",
    "if err := combinedPad1.UnmarshalBinary(msg.CombinedPads[i][1]); err != nil {",
    "return nil, err",
    "}",
    "result[i][0].Add(combinedPad0)",
    "result[i][1].Add(combinedPad1)",
    "}",
    "return result, nil" ] := rfl

/-- the statements of the Go function the model transcribes -/
theorem gen_scalarBytes : MpsGen.OT.scalarBytes = [
    "return (group.ScalarBits() + 7) & ^0b111" ] := rfl

/-- the statements of the Go function the model transcribes -/
theorem gen_encode : MpsGen.OT.encode = [
    "group := beta.Curve()",
    "gamma := make([]byte, len(noise)/8)",
    "_, _ = rand.Read(gamma)",
    "acc := group.NewScalar().Set(beta)",
    "mulNat := new(saferith.Nat)",
    "mul := group.NewScalar()",
    "for i := 0; i < len(noise); i++ {",
    "mulNat.SetUint64(uint64((gamma[i>>3] >> (i & 0b111)) & 1))",
    "acc.Sub(mul.SetNat(mulNat).Mul(noise[i]))",
    "}",
    "data, err := acc.MarshalBinary()",
    "if err != nil {",
    "return nil, err",
    "}",
    "data = append(data, gamma...)",
    "return data, nil" ] := rfl

/-- the statements of the Go function the model transcribes -/
theorem gen_makeGadget : MpsGen.OT.makeGadget = [
    "scalarEnd := scalarBytes(group)",
    "out := make([]curve.Scalar, 8*((group.ScalarBits()+7)/8+(group.ScalarBits()+2*params.StatParam+7)/8))",
    "acc := group.NewScalar().SetNat(new(saferith.Nat).SetUint64(1))",
    "for i := (scalarEnd >> 3) - 1; i >= 0; i-- {",
    "for j := 0; j < 8; j++ {",
    "out[(i<<3)|j] = group.NewScalar().Set(acc)",
    "acc.Add(acc)",
    "}",
    "}",
    "digest := ctxHash.Fork(&hash.BytesWithDomain{TheDomain: \"Multiply Gadget Sampling\", Bytes: nil}).Digest()",
    "for i := scalarEnd; i < len(out); i++ {",
    "out[i] = sample.Scalar(digest, group)",
    "}",
    "return out" ] := rfl

/-- the statements of the Go function the model transcribes -/
theorem gen_newMultiplySender : MpsGen.OT.newMultiplySender = [
    "group := alpha.Curve()",
    "gadget := makeGadget(ctxHash, group)",
    "var doubleAlpha [2]curve.Scalar",
    "doubleAlpha[0] = alpha",
    "doubleAlpha[1] = sample.Scalar(rand.Reader, group)",
    "return &MultiplySender{ ctxHash: ctxHash, group: group, setup: setup, gadget: gadget, doubleAlpha: doubleAlpha, sender: NewAdditiveOTSender(ctxHash, setup, len(gadget), doubleAlpha), }" ] := rfl

/-- the statements of the Go function the model transcribes -/
theorem gen_newMultiplyReceiver : MpsGen.OT.newMultiplyReceiver = [
    "group := beta.Curve()",
    "gadget := makeGadget(ctxHash, group)",
    "choices, err := encode(beta, gadget[scalarBytes(group):])",
    "if err != nil {",
    "return nil, err",
    "}",
    "return &MultiplyReceiver{ ctxHash: ctxHash, group: group, setup: setup, beta: beta, gadget: gadget, choices: choices, receiver: NewAdditiveOTReceiver(ctxHash, setup, group, choices), }, nil" ] := rfl

/-- the statements of the Go function the model transcribes -/
theorem gen_mulSendRound1 : MpsGen.OT.mulSendRound1 = [
    "if msg == nil || msg.Msg == nil {",
    "return nil, nil, errors.New(\"multiply send round 1: nil message\")",
    "}",
    "additiveMsg, result, err := r.sender.Round1(msg.Msg)",
    "if err != nil {",
    "return nil, nil, err",
    "}",
    "digest := r.ctxHash.Fork(&hash.BytesWithDomain{TheDomain: \"Multiply Chi Sampling\", Bytes: nil}).Digest()",
    "chi0 := sample.Scalar(digest, r.group)",
    "chi1 := sample.Scalar(digest, r.group)",
    "mul := r.group.NewScalar()",
    "uCheck := r.group.NewScalar()",
    "uCheck.Add(mul.Set(r.doubleAlpha[0]).Mul(chi0))",
    "uCheck.Add(mul.Set(r.doubleAlpha[1]).Mul(chi1))",
    "rCheck := make([]curve.Scalar, len(result))",
    "for i := 0; i < len(rCheck); i++ {",
    "rCheck[i] = r.group.NewScalar()",
    "rCheck[i].Add(mul.Set(result[i][0]).Mul(chi0))",
    "rCheck[i].Add(mul.Set(result[i][1]).Mul(chi1))",
    "}",
    "share := r.group.NewScalar()",
    "for i := 0; i < len(result); i++ {",
    "share.Add(mul.Set(result[i][0]).Mul(r.gadget[i]))",
    "}",
    "return &MultiplySendRound1Message{ Msg: additiveMsg, RCheck: rCheck, UCheck: uCheck, }, share, nil" ] := rfl

/-- the statements of the Go function the model transcribes -/
theorem gen_mulRecvRound2 : MpsGen.OT.mulRecvRound2 = [
    "if msg == nil || msg.Msg == nil || msg.UCheck == nil || len(msg.RCheck) != len(r.gadget) {",
    "return nil, errors.New(\"multiply receive round 2: malformed message\")",
    "}",
    "for _, rc := range msg.RCheck {",
    "if rc == nil {",
    "return nil, errors.New(\"multiply receive round 2: malformed message\")",
    "}",
    "}",
    "result, err := r.receiver.Round2(msg.Msg)",
    "if err != nil {",
    "return nil, err",
    "}",
    "digest := r.ctxHash.Fork(&hash.BytesWithDomain{TheDomain: \"Multiply Chi Sampling\", Bytes: nil}).Digest()",
    "chi0 := sample.Scalar(digest, r.group)",
    "chi1 := sample.Scalar(digest, r.group)",
    "mul := r.group.NewScalar()",
    "checkLeft := r.group.NewScalar()",
    "checkRight := r.group.NewScalar()",
    "choiceNat := new(saferith.Nat)",
    "for i := 0; i < len(result); i++ {",
    "checkLeft.Set(result[i][0]).Mul(chi0)",
    "checkLeft.Add(mul.Set(result[i][1]).Mul(chi1))",
    "checkRight.SetNat(choiceNat.SetUint64(uint64((r.choices[i>>3] >> (i & 0b111)) & 1)))",
    "checkRight.Mul(msg.UCheck)",
    "checkRight.Sub(msg.RCheck[i])",
    "if !checkLeft.Equal(checkRight) {",
    "return nil, errors.New(\"multiply receive round 2: integrity check failed\")",
    "}",
    "}",
    "share := r.group.NewScalar()",
    "for i := 0; i < len(result); i++ {",
    "share.Add(mul.Set(result[i][0]).Mul(r.gadget[i]))",
    "}",
    "return share, nil" ] := rfl

/-- every fork of the context hash in package ot passes `Bytes: nil` (see `gen_bwdWriteTo`, `gen_fork`) -/
theorem gen_forkDomains : MpsGen.OT.forkDomains = [
    "hash.BytesWithDomain{ TheDomain: \"CorreOT Random OT Nonces\", Bytes: nil, }",
    "hash.BytesWithDomain{ TheDomain: \"CorreOT Random OT Nonces\", Bytes: nil, }",
    "hash.BytesWithDomain{TheDomain: \"CorreOT PRG Key\", Bytes: nil}",
    "hash.BytesWithDomain{TheDomain: \"CorreOT PRG Key\", Bytes: nil}",
    "hash.BytesWithDomain{TheDomain: \"Multiply Gadget Sampling\", Bytes: nil}",
    "hash.BytesWithDomain{TheDomain: \"Multiply Chi Sampling\", Bytes: nil}",
    "hash.BytesWithDomain{TheDomain: \"Multiply Chi Sampling\", Bytes: nil}" ] := rfl

/-- `BytesWithDomain.WriteTo` refuses nil bytes … -/
theorem gen_bwdWriteTo : MpsGen.OT.bwdWriteTo = [
    "if b.Bytes == nil {",
    "return 0, io.ErrUnexpectedEOF",
    "}",
    "n, err := w.Write(b.Bytes)",
    "return int64(n), err" ] := rfl

/-- … and `Fork` drops the error: the forks of package ot write nothing (`forkNilBytes` is the identity) -/
theorem gen_fork : MpsGen.OT.fork = [
    "newHash := hash.Clone()",
    "_ = newHash.WriteAny(data...)",
    "return newHash" ] := rfl

/-- the statements of the Go function the model transcribes -/
theorem gen_sampleScalar : MpsGen.OT.sampleScalar = [
    "buffer := make([]byte, group.SafeScalarBytes())",
    "mustReadBits(rand, buffer)",
    "n := new(saferith.Nat).SetBytes(buffer)",
    "return group.NewScalar().SetNat(n)" ] := rfl

/-- the statements of the Go function the model transcribes -/
theorem gen_schChallenge : MpsGen.OT.schChallenge = [
    "err = hash.WriteAny(commitment.C, public, gen)",
    "e = sample.Scalar(hash.Digest(), group)",
    "return" ] := rfl
-- END statement tables

/-! ### Non-vacuity: concrete instances meeting the hypotheses -/

/-- the marshalling representative of a prime field -/
example : ReprOK (fun x : ZMod 3 => x.val) :=
  ⟨fun x => ZMod.natCast_zmod_val x, fun x => Nat.lt_of_lt_of_le (ZMod.val_lt x) (by decide)⟩

/-- a (constant) family of hash functions meeting `ChiOK` and the noise-length requirement -/
def trivialHash : OTHash (ZMod 3) :=
  { prg := fun _ _ => 0, chis := fun _ n => List.replicate n 1, pad := fun _ _ => 0,
    sc2 := fun _ => (1, 2), noise := fun n => List.replicate n 1, mchi := fun _ => (1, 1) }

example : ChiOK trivialHash := by
  intro U n i
  show (List.replicate n 1).getD i 0 < 2 ^ otParam
  rw [List.getD_eq_getElem?_getD]
  by_cases h : i < n <;> simp [h, otParam]

example : (trivialHash.noise noiseLen).length = noiseLen := by simp [trivialHash]

/-- a setup satisfying the setup relation -/
example : SetupRel { delta := 0, kDelta := [] } { k0 := [], k1 := [] } :=
  ⟨Nat.two_pow_pos _, fun i _ => by simp⟩

/-- a lawful group with an invertible encoding: the field as a module over itself -/
example : ∀ P : ZMod 3, (fun bs : Bytes => some ((bs.headD 0).toNat : ZMod 3)) ((fun x : ZMod 3 => [UInt8.ofNat x.val]) P) = some P := by
  decide

/-- the hypothesis χ₀ ≠ 0 of the alteration theorem is satisfiable -/
example : (trivialHash.mchi []).1 ≠ 0 := by decide

/-- the pad relation assumed by `additive_sum` is what `ext_ot_choice` establishes; directly: -/
example : ∀ i, i < 2 → ([5, 6] : List Nat).getD i 0 = if (2 : Nat).testBit i then ([7, 6] : List Nat).getD i 0 else ([5, 9] : List Nat).getD i 0 := by
  decide

/-- a single-field alteration -/
example : SingleAlt (F := ZMod 3) ⟨[(1, 2)], [1], 1⟩ ⟨[(1, 2)], [1], 2⟩ := SingleAlt.field (FieldAlt.ucheck 2 rfl)
example : SingleAlt (F := ZMod 3) ⟨[(1, 2)], [1], 1⟩ ⟨[(1, 2)], [], 1⟩ := SingleAlt.rcLen [] (by decide) rfl
example : (3 : Nat) < ([32, 31, 0, 40] : List Nat).length := by decide

/-- 128-bit vectors exist -/
example : (2 ^ 127 + 1 : Nat) < 2 ^ 128 := by decide

end Mps.C13
