import MpsGen.SrcLPkgProtocol
import Mps.SrcPins.SrcLPkgProtocol
/-
  The source of this protocol directory is, file by file and line by line, the text the judged real sessions were last
  validated against (Mps/SrcPins/SrcLPkgProtocol.lean, written by bin/mkroundpins). Any edit breaks the obligation below.
-/
namespace Mps.Src.SrcLPkgProtocol

theorem gen_f_error : MpsGen.SrcLPkgProtocol.f_error = Mps.SrcPins.SrcLPkgProtocol.f_error := rfl
theorem gen_f_handler : MpsGen.SrcLPkgProtocol.f_handler = Mps.SrcPins.SrcLPkgProtocol.f_handler := rfl
theorem gen_f_message : MpsGen.SrcLPkgProtocol.f_message = Mps.SrcPins.SrcLPkgProtocol.f_message := rfl
theorem gen_f_twoparty : MpsGen.SrcLPkgProtocol.f_twoparty = Mps.SrcPins.SrcLPkgProtocol.f_twoparty := rfl
theorem gen_files : MpsGen.SrcLPkgProtocol.files = Mps.SrcPins.SrcLPkgProtocol.files := rfl

theorem gen_source :
    MpsGen.SrcLPkgProtocol.f_error = Mps.SrcPins.SrcLPkgProtocol.f_error ∧
    MpsGen.SrcLPkgProtocol.f_handler = Mps.SrcPins.SrcLPkgProtocol.f_handler ∧
    MpsGen.SrcLPkgProtocol.f_message = Mps.SrcPins.SrcLPkgProtocol.f_message ∧
    MpsGen.SrcLPkgProtocol.f_twoparty = Mps.SrcPins.SrcLPkgProtocol.f_twoparty ∧
    MpsGen.SrcLPkgProtocol.files = Mps.SrcPins.SrcLPkgProtocol.files :=
  ⟨gen_f_error, gen_f_handler, gen_f_message, gen_f_twoparty, gen_files⟩

end Mps.Src.SrcLPkgProtocol
