import MpsGen.SrcLPkgMathCurve
import Mps.SrcPins.SrcLPkgMathCurve
/-
  The source of this protocol directory is, file by file and line by line, the text the judged real sessions were last
  validated against (Mps/SrcPins/SrcLPkgMathCurve.lean, written by bin/mkroundpins). Any edit breaks the obligation below.
-/
namespace Mps.Src.SrcLPkgMathCurve

theorem gen_f_curve : MpsGen.SrcLPkgMathCurve.f_curve = Mps.SrcPins.SrcLPkgMathCurve.f_curve := rfl
theorem gen_f_secp256k1 : MpsGen.SrcLPkgMathCurve.f_secp256k1 = Mps.SrcPins.SrcLPkgMathCurve.f_secp256k1 := rfl
theorem gen_files : MpsGen.SrcLPkgMathCurve.files = Mps.SrcPins.SrcLPkgMathCurve.files := rfl

theorem gen_source :
    MpsGen.SrcLPkgMathCurve.f_curve = Mps.SrcPins.SrcLPkgMathCurve.f_curve ∧
    MpsGen.SrcLPkgMathCurve.f_secp256k1 = Mps.SrcPins.SrcLPkgMathCurve.f_secp256k1 ∧
    MpsGen.SrcLPkgMathCurve.files = Mps.SrcPins.SrcLPkgMathCurve.files :=
  ⟨gen_f_curve, gen_f_secp256k1, gen_files⟩

end Mps.Src.SrcLPkgMathCurve
