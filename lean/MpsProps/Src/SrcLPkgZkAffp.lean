import MpsGen.SrcLPkgZkAffp
import Mps.SrcPins.SrcLPkgZkAffp
/-
  The source of this protocol directory is, file by file and line by line, the text the judged real sessions were last
  validated against (Mps/SrcPins/SrcLPkgZkAffp.lean, written by bin/mkroundpins). Any edit breaks the obligation below.
-/
namespace Mps.Src.SrcLPkgZkAffp

theorem gen_f_affp : MpsGen.SrcLPkgZkAffp.f_affp = Mps.SrcPins.SrcLPkgZkAffp.f_affp := rfl
theorem gen_files : MpsGen.SrcLPkgZkAffp.files = Mps.SrcPins.SrcLPkgZkAffp.files := rfl

theorem gen_source :
    MpsGen.SrcLPkgZkAffp.f_affp = Mps.SrcPins.SrcLPkgZkAffp.f_affp ∧
    MpsGen.SrcLPkgZkAffp.files = Mps.SrcPins.SrcLPkgZkAffp.files :=
  ⟨gen_f_affp, gen_files⟩

end Mps.Src.SrcLPkgZkAffp
