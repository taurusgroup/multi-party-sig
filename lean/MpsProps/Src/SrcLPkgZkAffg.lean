import MpsGen.SrcLPkgZkAffg
import Mps.SrcPins.SrcLPkgZkAffg
/-
  The source of this protocol directory is, file by file and line by line, the text the judged real sessions were last
  validated against (Mps/SrcPins/SrcLPkgZkAffg.lean, written by bin/mkroundpins). Any edit breaks the obligation below.
-/
namespace Mps.Src.SrcLPkgZkAffg

theorem gen_f_affg : MpsGen.SrcLPkgZkAffg.f_affg = Mps.SrcPins.SrcLPkgZkAffg.f_affg := rfl
theorem gen_files : MpsGen.SrcLPkgZkAffg.files = Mps.SrcPins.SrcLPkgZkAffg.files := rfl

theorem gen_source :
    MpsGen.SrcLPkgZkAffg.f_affg = Mps.SrcPins.SrcLPkgZkAffg.f_affg ∧
    MpsGen.SrcLPkgZkAffg.files = Mps.SrcPins.SrcLPkgZkAffg.files :=
  ⟨gen_f_affg, gen_files⟩

end Mps.Src.SrcLPkgZkAffg
