import MpsGen.SrcLPkgMathPolynomial
import Mps.SrcPins.SrcLPkgMathPolynomial
/-
  The source of this protocol directory is, file by file and line by line, the text the judged real sessions were last
  validated against (Mps/SrcPins/SrcLPkgMathPolynomial.lean, written by bin/mkroundpins). Any edit breaks the obligation below.
-/
namespace Mps.Src.SrcLPkgMathPolynomial

theorem gen_f_exponent : MpsGen.SrcLPkgMathPolynomial.f_exponent = Mps.SrcPins.SrcLPkgMathPolynomial.f_exponent := rfl
theorem gen_f_lagrange : MpsGen.SrcLPkgMathPolynomial.f_lagrange = Mps.SrcPins.SrcLPkgMathPolynomial.f_lagrange := rfl
theorem gen_f_polynomial : MpsGen.SrcLPkgMathPolynomial.f_polynomial = Mps.SrcPins.SrcLPkgMathPolynomial.f_polynomial := rfl
theorem gen_files : MpsGen.SrcLPkgMathPolynomial.files = Mps.SrcPins.SrcLPkgMathPolynomial.files := rfl

theorem gen_source :
    MpsGen.SrcLPkgMathPolynomial.f_exponent = Mps.SrcPins.SrcLPkgMathPolynomial.f_exponent ∧
    MpsGen.SrcLPkgMathPolynomial.f_lagrange = Mps.SrcPins.SrcLPkgMathPolynomial.f_lagrange ∧
    MpsGen.SrcLPkgMathPolynomial.f_polynomial = Mps.SrcPins.SrcLPkgMathPolynomial.f_polynomial ∧
    MpsGen.SrcLPkgMathPolynomial.files = Mps.SrcPins.SrcLPkgMathPolynomial.files :=
  ⟨gen_f_exponent, gen_f_lagrange, gen_f_polynomial, gen_files⟩

end Mps.Src.SrcLPkgMathPolynomial
