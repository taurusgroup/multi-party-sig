import MpsGen.SrcLPkgMathArith
import Mps.SrcPins.SrcLPkgMathArith
/-
  The source of this protocol directory is, file by file and line by line, the text the judged real sessions were last
  validated against (Mps/SrcPins/SrcLPkgMathArith.lean, written by bin/mkroundpins). Any edit breaks the obligation below.
-/
namespace Mps.Src.SrcLPkgMathArith

theorem gen_f_int : MpsGen.SrcLPkgMathArith.f_int = Mps.SrcPins.SrcLPkgMathArith.f_int := rfl
theorem gen_f_modulus : MpsGen.SrcLPkgMathArith.f_modulus = Mps.SrcPins.SrcLPkgMathArith.f_modulus := rfl
theorem gen_files : MpsGen.SrcLPkgMathArith.files = Mps.SrcPins.SrcLPkgMathArith.files := rfl

theorem gen_source :
    MpsGen.SrcLPkgMathArith.f_int = Mps.SrcPins.SrcLPkgMathArith.f_int ∧
    MpsGen.SrcLPkgMathArith.f_modulus = Mps.SrcPins.SrcLPkgMathArith.f_modulus ∧
    MpsGen.SrcLPkgMathArith.files = Mps.SrcPins.SrcLPkgMathArith.files :=
  ⟨gen_f_int, gen_f_modulus, gen_files⟩

end Mps.Src.SrcLPkgMathArith
