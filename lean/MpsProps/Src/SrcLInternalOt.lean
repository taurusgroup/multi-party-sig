import MpsGen.SrcLInternalOt
import Mps.SrcPins.SrcLInternalOt
/-
  The source of this protocol directory is, file by file and line by line, the text the judged real sessions were last
  validated against (Mps/SrcPins/SrcLInternalOt.lean, written by bin/mkroundpins). Any edit breaks the obligation below.
-/
namespace Mps.Src.SrcLInternalOt

theorem gen_f_additive : MpsGen.SrcLInternalOt.f_additive = Mps.SrcPins.SrcLInternalOt.f_additive := rfl
theorem gen_f_bits : MpsGen.SrcLInternalOt.f_bits = Mps.SrcPins.SrcLInternalOt.f_bits := rfl
theorem gen_f_correlated : MpsGen.SrcLInternalOt.f_correlated = Mps.SrcPins.SrcLInternalOt.f_correlated := rfl
theorem gen_f_extended : MpsGen.SrcLInternalOt.f_extended = Mps.SrcPins.SrcLInternalOt.f_extended := rfl
theorem gen_f_multiply : MpsGen.SrcLInternalOt.f_multiply = Mps.SrcPins.SrcLInternalOt.f_multiply := rfl
theorem gen_f_random : MpsGen.SrcLInternalOt.f_random = Mps.SrcPins.SrcLInternalOt.f_random := rfl
theorem gen_files : MpsGen.SrcLInternalOt.files = Mps.SrcPins.SrcLInternalOt.files := rfl

theorem gen_source :
    MpsGen.SrcLInternalOt.f_additive = Mps.SrcPins.SrcLInternalOt.f_additive ∧
    MpsGen.SrcLInternalOt.f_bits = Mps.SrcPins.SrcLInternalOt.f_bits ∧
    MpsGen.SrcLInternalOt.f_correlated = Mps.SrcPins.SrcLInternalOt.f_correlated ∧
    MpsGen.SrcLInternalOt.f_extended = Mps.SrcPins.SrcLInternalOt.f_extended ∧
    MpsGen.SrcLInternalOt.f_multiply = Mps.SrcPins.SrcLInternalOt.f_multiply ∧
    MpsGen.SrcLInternalOt.f_random = Mps.SrcPins.SrcLInternalOt.f_random ∧
    MpsGen.SrcLInternalOt.files = Mps.SrcPins.SrcLInternalOt.files :=
  ⟨gen_f_additive, gen_f_bits, gen_f_correlated, gen_f_extended, gen_f_multiply, gen_f_random, gen_files⟩

end Mps.Src.SrcLInternalOt
