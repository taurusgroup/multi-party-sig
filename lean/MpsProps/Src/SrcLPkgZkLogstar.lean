import MpsGen.SrcLPkgZkLogstar
import Mps.SrcPins.SrcLPkgZkLogstar
/-
  The source of this protocol directory is, file by file and line by line, the text the judged real sessions were last
  validated against (Mps/SrcPins/SrcLPkgZkLogstar.lean, written by bin/mkroundpins). Any edit breaks the obligation below.
-/
namespace Mps.Src.SrcLPkgZkLogstar

theorem gen_f_logstar : MpsGen.SrcLPkgZkLogstar.f_logstar = Mps.SrcPins.SrcLPkgZkLogstar.f_logstar := rfl
theorem gen_files : MpsGen.SrcLPkgZkLogstar.files = Mps.SrcPins.SrcLPkgZkLogstar.files := rfl

theorem gen_source :
    MpsGen.SrcLPkgZkLogstar.f_logstar = Mps.SrcPins.SrcLPkgZkLogstar.f_logstar ∧
    MpsGen.SrcLPkgZkLogstar.files = Mps.SrcPins.SrcLPkgZkLogstar.files :=
  ⟨gen_f_logstar, gen_files⟩

end Mps.Src.SrcLPkgZkLogstar
