import MpsGen.SrcLInternalSafecbor
import Mps.SrcPins.SrcLInternalSafecbor
/-
  The source of this protocol directory is, file by file and line by line, the text the judged real sessions were last
  validated against (Mps/SrcPins/SrcLInternalSafecbor.lean, written by bin/mkroundpins). Any edit breaks the obligation below.
-/
namespace Mps.Src.SrcLInternalSafecbor

theorem gen_f_safecbor : MpsGen.SrcLInternalSafecbor.f_safecbor = Mps.SrcPins.SrcLInternalSafecbor.f_safecbor := rfl
theorem gen_files : MpsGen.SrcLInternalSafecbor.files = Mps.SrcPins.SrcLInternalSafecbor.files := rfl

theorem gen_source :
    MpsGen.SrcLInternalSafecbor.f_safecbor = Mps.SrcPins.SrcLInternalSafecbor.f_safecbor ∧
    MpsGen.SrcLInternalSafecbor.files = Mps.SrcPins.SrcLInternalSafecbor.files :=
  ⟨gen_f_safecbor, gen_files⟩

end Mps.Src.SrcLInternalSafecbor
