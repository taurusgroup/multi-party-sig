import MpsGen.SrcCmpPresign
import Mps.SrcPins.SrcCmpPresign
/-
  The source of this protocol directory is, file by file and line by line, the text the judged real sessions were last
  validated against (Mps/SrcPins/SrcCmpPresign.lean, written by bin/mkroundpins). Any edit breaks the obligation below.
-/
namespace Mps.Src.SrcCmpPresign

theorem gen_f_abort1 : MpsGen.SrcCmpPresign.f_abort1 = Mps.SrcPins.SrcCmpPresign.f_abort1 := rfl
theorem gen_f_abort2 : MpsGen.SrcCmpPresign.f_abort2 = Mps.SrcPins.SrcCmpPresign.f_abort2 := rfl
theorem gen_f_presign1 : MpsGen.SrcCmpPresign.f_presign1 = Mps.SrcPins.SrcCmpPresign.f_presign1 := rfl
theorem gen_f_presign2 : MpsGen.SrcCmpPresign.f_presign2 = Mps.SrcPins.SrcCmpPresign.f_presign2 := rfl
theorem gen_f_presign3 : MpsGen.SrcCmpPresign.f_presign3 = Mps.SrcPins.SrcCmpPresign.f_presign3 := rfl
theorem gen_f_presign4 : MpsGen.SrcCmpPresign.f_presign4 = Mps.SrcPins.SrcCmpPresign.f_presign4 := rfl
theorem gen_f_presign5 : MpsGen.SrcCmpPresign.f_presign5 = Mps.SrcPins.SrcCmpPresign.f_presign5 := rfl
theorem gen_f_presign6 : MpsGen.SrcCmpPresign.f_presign6 = Mps.SrcPins.SrcCmpPresign.f_presign6 := rfl
theorem gen_f_presign7 : MpsGen.SrcCmpPresign.f_presign7 = Mps.SrcPins.SrcCmpPresign.f_presign7 := rfl
theorem gen_f_sign : MpsGen.SrcCmpPresign.f_sign = Mps.SrcPins.SrcCmpPresign.f_sign := rfl
theorem gen_f_sign1 : MpsGen.SrcCmpPresign.f_sign1 = Mps.SrcPins.SrcCmpPresign.f_sign1 := rfl
theorem gen_f_sign2 : MpsGen.SrcCmpPresign.f_sign2 = Mps.SrcPins.SrcCmpPresign.f_sign2 := rfl
theorem gen_files : MpsGen.SrcCmpPresign.files = Mps.SrcPins.SrcCmpPresign.files := rfl

theorem gen_source :
    MpsGen.SrcCmpPresign.f_abort1 = Mps.SrcPins.SrcCmpPresign.f_abort1 ∧
    MpsGen.SrcCmpPresign.f_abort2 = Mps.SrcPins.SrcCmpPresign.f_abort2 ∧
    MpsGen.SrcCmpPresign.f_presign1 = Mps.SrcPins.SrcCmpPresign.f_presign1 ∧
    MpsGen.SrcCmpPresign.f_presign2 = Mps.SrcPins.SrcCmpPresign.f_presign2 ∧
    MpsGen.SrcCmpPresign.f_presign3 = Mps.SrcPins.SrcCmpPresign.f_presign3 ∧
    MpsGen.SrcCmpPresign.f_presign4 = Mps.SrcPins.SrcCmpPresign.f_presign4 ∧
    MpsGen.SrcCmpPresign.f_presign5 = Mps.SrcPins.SrcCmpPresign.f_presign5 ∧
    MpsGen.SrcCmpPresign.f_presign6 = Mps.SrcPins.SrcCmpPresign.f_presign6 ∧
    MpsGen.SrcCmpPresign.f_presign7 = Mps.SrcPins.SrcCmpPresign.f_presign7 ∧
    MpsGen.SrcCmpPresign.f_sign = Mps.SrcPins.SrcCmpPresign.f_sign ∧
    MpsGen.SrcCmpPresign.f_sign1 = Mps.SrcPins.SrcCmpPresign.f_sign1 ∧
    MpsGen.SrcCmpPresign.f_sign2 = Mps.SrcPins.SrcCmpPresign.f_sign2 ∧
    MpsGen.SrcCmpPresign.files = Mps.SrcPins.SrcCmpPresign.files :=
  ⟨gen_f_abort1, gen_f_abort2, gen_f_presign1, gen_f_presign2, gen_f_presign3, gen_f_presign4, gen_f_presign5, gen_f_presign6, gen_f_presign7, gen_f_sign, gen_f_sign1, gen_f_sign2, gen_files⟩

end Mps.Src.SrcCmpPresign
