import MpsGen.SrcLInternalTypes
import Mps.SrcPins.SrcLInternalTypes
/-
  The source of this protocol directory is, file by file and line by line, the text the judged real sessions were last
  validated against (Mps/SrcPins/SrcLInternalTypes.lean, written by bin/mkroundpins). Any edit breaks the obligation below.
-/
namespace Mps.Src.SrcLInternalTypes

theorem gen_f_message : MpsGen.SrcLInternalTypes.f_message = Mps.SrcPins.SrcLInternalTypes.f_message := rfl
theorem gen_f_rid : MpsGen.SrcLInternalTypes.f_rid = Mps.SrcPins.SrcLInternalTypes.f_rid := rfl
theorem gen_f_threshold : MpsGen.SrcLInternalTypes.f_threshold = Mps.SrcPins.SrcLInternalTypes.f_threshold := rfl
theorem gen_files : MpsGen.SrcLInternalTypes.files = Mps.SrcPins.SrcLInternalTypes.files := rfl

theorem gen_source :
    MpsGen.SrcLInternalTypes.f_message = Mps.SrcPins.SrcLInternalTypes.f_message ∧
    MpsGen.SrcLInternalTypes.f_rid = Mps.SrcPins.SrcLInternalTypes.f_rid ∧
    MpsGen.SrcLInternalTypes.f_threshold = Mps.SrcPins.SrcLInternalTypes.f_threshold ∧
    MpsGen.SrcLInternalTypes.files = Mps.SrcPins.SrcLInternalTypes.files :=
  ⟨gen_f_message, gen_f_rid, gen_f_threshold, gen_files⟩

end Mps.Src.SrcLInternalTypes
