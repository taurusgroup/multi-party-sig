import MpsGen.SrcLPkgZkPrm
import Mps.SrcPins.SrcLPkgZkPrm
/-
  The source of this protocol directory is, file by file and line by line, the text the judged real sessions were last
  validated against (Mps/SrcPins/SrcLPkgZkPrm.lean, written by bin/mkroundpins). Any edit breaks the obligation below.
-/
namespace Mps.Src.SrcLPkgZkPrm

theorem gen_f_prm : MpsGen.SrcLPkgZkPrm.f_prm = Mps.SrcPins.SrcLPkgZkPrm.f_prm := rfl
theorem gen_files : MpsGen.SrcLPkgZkPrm.files = Mps.SrcPins.SrcLPkgZkPrm.files := rfl

theorem gen_source :
    MpsGen.SrcLPkgZkPrm.f_prm = Mps.SrcPins.SrcLPkgZkPrm.f_prm ∧
    MpsGen.SrcLPkgZkPrm.files = Mps.SrcPins.SrcLPkgZkPrm.files :=
  ⟨gen_f_prm, gen_files⟩

end Mps.Src.SrcLPkgZkPrm
