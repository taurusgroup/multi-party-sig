import MpsGen.SrcLPkgTaproot
import Mps.SrcPins.SrcLPkgTaproot
/-
  The source of this protocol directory is, file by file and line by line, the text the judged real sessions were last
  validated against (Mps/SrcPins/SrcLPkgTaproot.lean, written by bin/mkroundpins). Any edit breaks the obligation below.
-/
namespace Mps.Src.SrcLPkgTaproot

theorem gen_f_signature : MpsGen.SrcLPkgTaproot.f_signature = Mps.SrcPins.SrcLPkgTaproot.f_signature := rfl
theorem gen_files : MpsGen.SrcLPkgTaproot.files = Mps.SrcPins.SrcLPkgTaproot.files := rfl

theorem gen_source :
    MpsGen.SrcLPkgTaproot.f_signature = Mps.SrcPins.SrcLPkgTaproot.f_signature ∧
    MpsGen.SrcLPkgTaproot.files = Mps.SrcPins.SrcLPkgTaproot.files :=
  ⟨gen_f_signature, gen_files⟩

end Mps.Src.SrcLPkgTaproot
