import MpsGen.SrcLPkgZkEncelg
import Mps.SrcPins.SrcLPkgZkEncelg
/-
  The source of this protocol directory is, file by file and line by line, the text the judged real sessions were last
  validated against (Mps/SrcPins/SrcLPkgZkEncelg.lean, written by bin/mkroundpins). Any edit breaks the obligation below.
-/
namespace Mps.Src.SrcLPkgZkEncelg

theorem gen_f_encelg : MpsGen.SrcLPkgZkEncelg.f_encelg = Mps.SrcPins.SrcLPkgZkEncelg.f_encelg := rfl
theorem gen_files : MpsGen.SrcLPkgZkEncelg.files = Mps.SrcPins.SrcLPkgZkEncelg.files := rfl

theorem gen_source :
    MpsGen.SrcLPkgZkEncelg.f_encelg = Mps.SrcPins.SrcLPkgZkEncelg.f_encelg ∧
    MpsGen.SrcLPkgZkEncelg.files = Mps.SrcPins.SrcLPkgZkEncelg.files :=
  ⟨gen_f_encelg, gen_files⟩

end Mps.Src.SrcLPkgZkEncelg
