import MpsGen.SrcLInternalMta
import Mps.SrcPins.SrcLInternalMta
/-
  The source of this protocol directory is, file by file and line by line, the text the judged real sessions were last
  validated against (Mps/SrcPins/SrcLInternalMta.lean, written by bin/mkroundpins). Any edit breaks the obligation below.
-/
namespace Mps.Src.SrcLInternalMta

theorem gen_f_mta : MpsGen.SrcLInternalMta.f_mta = Mps.SrcPins.SrcLInternalMta.f_mta := rfl
theorem gen_files : MpsGen.SrcLInternalMta.files = Mps.SrcPins.SrcLInternalMta.files := rfl

theorem gen_source :
    MpsGen.SrcLInternalMta.f_mta = Mps.SrcPins.SrcLInternalMta.f_mta ∧
    MpsGen.SrcLInternalMta.files = Mps.SrcPins.SrcLInternalMta.files :=
  ⟨gen_f_mta, gen_files⟩

end Mps.Src.SrcLInternalMta
