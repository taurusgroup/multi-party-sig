import MpsGen.SrcLPkgZkEnc
import Mps.SrcPins.SrcLPkgZkEnc
/-
  The source of this protocol directory is, file by file and line by line, the text the judged real sessions were last
  validated against (Mps/SrcPins/SrcLPkgZkEnc.lean, written by bin/mkroundpins). Any edit breaks the obligation below.
-/
namespace Mps.Src.SrcLPkgZkEnc

theorem gen_f_enc : MpsGen.SrcLPkgZkEnc.f_enc = Mps.SrcPins.SrcLPkgZkEnc.f_enc := rfl
theorem gen_files : MpsGen.SrcLPkgZkEnc.files = Mps.SrcPins.SrcLPkgZkEnc.files := rfl

theorem gen_source :
    MpsGen.SrcLPkgZkEnc.f_enc = Mps.SrcPins.SrcLPkgZkEnc.f_enc ∧
    MpsGen.SrcLPkgZkEnc.files = Mps.SrcPins.SrcLPkgZkEnc.files :=
  ⟨gen_f_enc, gen_files⟩

end Mps.Src.SrcLPkgZkEnc
