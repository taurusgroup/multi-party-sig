import MpsGen.SrcLPkgZkFac
import Mps.SrcPins.SrcLPkgZkFac
/-
  The source of this protocol directory is, file by file and line by line, the text the judged real sessions were last
  validated against (Mps/SrcPins/SrcLPkgZkFac.lean, written by bin/mkroundpins). Any edit breaks the obligation below.
-/
namespace Mps.Src.SrcLPkgZkFac

theorem gen_f_fac : MpsGen.SrcLPkgZkFac.f_fac = Mps.SrcPins.SrcLPkgZkFac.f_fac := rfl
theorem gen_files : MpsGen.SrcLPkgZkFac.files = Mps.SrcPins.SrcLPkgZkFac.files := rfl

theorem gen_source :
    MpsGen.SrcLPkgZkFac.f_fac = Mps.SrcPins.SrcLPkgZkFac.f_fac ∧
    MpsGen.SrcLPkgZkFac.files = Mps.SrcPins.SrcLPkgZkFac.files :=
  ⟨gen_f_fac, gen_files⟩

end Mps.Src.SrcLPkgZkFac
