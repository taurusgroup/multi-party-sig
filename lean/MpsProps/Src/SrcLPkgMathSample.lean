import MpsGen.SrcLPkgMathSample
import Mps.SrcPins.SrcLPkgMathSample
/-
  The source of this protocol directory is, file by file and line by line, the text the judged real sessions were last
  validated against (Mps/SrcPins/SrcLPkgMathSample.lean, written by bin/mkroundpins). Any edit breaks the obligation below.
-/
namespace Mps.Src.SrcLPkgMathSample

theorem gen_f_hook_noverif : MpsGen.SrcLPkgMathSample.f_hook_noverif = Mps.SrcPins.SrcLPkgMathSample.f_hook_noverif := rfl
theorem gen_f_hook_verif : MpsGen.SrcLPkgMathSample.f_hook_verif = Mps.SrcPins.SrcLPkgMathSample.f_hook_verif := rfl
theorem gen_f_plus_minus : MpsGen.SrcLPkgMathSample.f_plus_minus = Mps.SrcPins.SrcLPkgMathSample.f_plus_minus := rfl
theorem gen_f_prime : MpsGen.SrcLPkgMathSample.f_prime = Mps.SrcPins.SrcLPkgMathSample.f_prime := rfl
theorem gen_f_sample : MpsGen.SrcLPkgMathSample.f_sample = Mps.SrcPins.SrcLPkgMathSample.f_sample := rfl
theorem gen_files : MpsGen.SrcLPkgMathSample.files = Mps.SrcPins.SrcLPkgMathSample.files := rfl

theorem gen_source :
    MpsGen.SrcLPkgMathSample.f_hook_noverif = Mps.SrcPins.SrcLPkgMathSample.f_hook_noverif ∧
    MpsGen.SrcLPkgMathSample.f_hook_verif = Mps.SrcPins.SrcLPkgMathSample.f_hook_verif ∧
    MpsGen.SrcLPkgMathSample.f_plus_minus = Mps.SrcPins.SrcLPkgMathSample.f_plus_minus ∧
    MpsGen.SrcLPkgMathSample.f_prime = Mps.SrcPins.SrcLPkgMathSample.f_prime ∧
    MpsGen.SrcLPkgMathSample.f_sample = Mps.SrcPins.SrcLPkgMathSample.f_sample ∧
    MpsGen.SrcLPkgMathSample.files = Mps.SrcPins.SrcLPkgMathSample.files :=
  ⟨gen_f_hook_noverif, gen_f_hook_verif, gen_f_plus_minus, gen_f_prime, gen_f_sample, gen_files⟩

end Mps.Src.SrcLPkgMathSample
