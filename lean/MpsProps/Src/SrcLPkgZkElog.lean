import MpsGen.SrcLPkgZkElog
import Mps.SrcPins.SrcLPkgZkElog
/-
  The source of this protocol directory is, file by file and line by line, the text the judged real sessions were last
  validated against (Mps/SrcPins/SrcLPkgZkElog.lean, written by bin/mkroundpins). Any edit breaks the obligation below.
-/
namespace Mps.Src.SrcLPkgZkElog

theorem gen_f_elog : MpsGen.SrcLPkgZkElog.f_elog = Mps.SrcPins.SrcLPkgZkElog.f_elog := rfl
theorem gen_files : MpsGen.SrcLPkgZkElog.files = Mps.SrcPins.SrcLPkgZkElog.files := rfl

theorem gen_source :
    MpsGen.SrcLPkgZkElog.f_elog = Mps.SrcPins.SrcLPkgZkElog.f_elog ∧
    MpsGen.SrcLPkgZkElog.files = Mps.SrcPins.SrcLPkgZkElog.files :=
  ⟨gen_f_elog, gen_files⟩

end Mps.Src.SrcLPkgZkElog
