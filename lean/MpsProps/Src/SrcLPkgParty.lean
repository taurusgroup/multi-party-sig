import MpsGen.SrcLPkgParty
import Mps.SrcPins.SrcLPkgParty
/-
  The source of this protocol directory is, file by file and line by line, the text the judged real sessions were last
  validated against (Mps/SrcPins/SrcLPkgParty.lean, written by bin/mkroundpins). Any edit breaks the obligation below.
-/
namespace Mps.Src.SrcLPkgParty

theorem gen_f_id : MpsGen.SrcLPkgParty.f_id = Mps.SrcPins.SrcLPkgParty.f_id := rfl
theorem gen_f_idslice : MpsGen.SrcLPkgParty.f_idslice = Mps.SrcPins.SrcLPkgParty.f_idslice := rfl
theorem gen_files : MpsGen.SrcLPkgParty.files = Mps.SrcPins.SrcLPkgParty.files := rfl

theorem gen_source :
    MpsGen.SrcLPkgParty.f_id = Mps.SrcPins.SrcLPkgParty.f_id ∧
    MpsGen.SrcLPkgParty.f_idslice = Mps.SrcPins.SrcLPkgParty.f_idslice ∧
    MpsGen.SrcLPkgParty.files = Mps.SrcPins.SrcLPkgParty.files :=
  ⟨gen_f_id, gen_f_idslice, gen_files⟩

end Mps.Src.SrcLPkgParty
