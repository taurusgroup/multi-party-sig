import MpsGen.SrcLProtocolsDoerner
import Mps.SrcPins.SrcLProtocolsDoerner
/-
  The source of this protocol directory is, file by file and line by line, the text the judged real sessions were last
  validated against (Mps/SrcPins/SrcLProtocolsDoerner.lean, written by bin/mkroundpins). Any edit breaks the obligation below.
-/
namespace Mps.Src.SrcLProtocolsDoerner

theorem gen_f_doerner : MpsGen.SrcLProtocolsDoerner.f_doerner = Mps.SrcPins.SrcLProtocolsDoerner.f_doerner := rfl
theorem gen_files : MpsGen.SrcLProtocolsDoerner.files = Mps.SrcPins.SrcLProtocolsDoerner.files := rfl

theorem gen_source :
    MpsGen.SrcLProtocolsDoerner.f_doerner = Mps.SrcPins.SrcLProtocolsDoerner.f_doerner ∧
    MpsGen.SrcLProtocolsDoerner.files = Mps.SrcPins.SrcLProtocolsDoerner.files :=
  ⟨gen_f_doerner, gen_files⟩

end Mps.Src.SrcLProtocolsDoerner
