import MpsGen.SrcLPkgEcdsa
import Mps.SrcPins.SrcLPkgEcdsa
/-
  The source of this protocol directory is, file by file and line by line, the text the judged real sessions were last
  validated against (Mps/SrcPins/SrcLPkgEcdsa.lean, written by bin/mkroundpins). Any edit breaks the obligation below.
-/
namespace Mps.Src.SrcLPkgEcdsa

theorem gen_f_presignature : MpsGen.SrcLPkgEcdsa.f_presignature = Mps.SrcPins.SrcLPkgEcdsa.f_presignature := rfl
theorem gen_f_signature : MpsGen.SrcLPkgEcdsa.f_signature = Mps.SrcPins.SrcLPkgEcdsa.f_signature := rfl
theorem gen_files : MpsGen.SrcLPkgEcdsa.files = Mps.SrcPins.SrcLPkgEcdsa.files := rfl

theorem gen_source :
    MpsGen.SrcLPkgEcdsa.f_presignature = Mps.SrcPins.SrcLPkgEcdsa.f_presignature ∧
    MpsGen.SrcLPkgEcdsa.f_signature = Mps.SrcPins.SrcLPkgEcdsa.f_signature ∧
    MpsGen.SrcLPkgEcdsa.files = Mps.SrcPins.SrcLPkgEcdsa.files :=
  ⟨gen_f_presignature, gen_f_signature, gen_files⟩

end Mps.Src.SrcLPkgEcdsa
