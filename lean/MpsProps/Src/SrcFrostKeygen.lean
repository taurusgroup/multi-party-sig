import MpsGen.SrcFrostKeygen
import Mps.SrcPins.SrcFrostKeygen
/-
  The source of this protocol directory is, file by file and line by line, the text the judged real sessions were last
  validated against (Mps/SrcPins/SrcFrostKeygen.lean, written by bin/mkroundpins). Any edit breaks the obligation below.
-/
namespace Mps.Src.SrcFrostKeygen

theorem gen_f_config : MpsGen.SrcFrostKeygen.f_config = Mps.SrcPins.SrcFrostKeygen.f_config := rfl
theorem gen_f_keygen : MpsGen.SrcFrostKeygen.f_keygen = Mps.SrcPins.SrcFrostKeygen.f_keygen := rfl
theorem gen_f_round1 : MpsGen.SrcFrostKeygen.f_round1 = Mps.SrcPins.SrcFrostKeygen.f_round1 := rfl
theorem gen_f_round2 : MpsGen.SrcFrostKeygen.f_round2 = Mps.SrcPins.SrcFrostKeygen.f_round2 := rfl
theorem gen_f_round3 : MpsGen.SrcFrostKeygen.f_round3 = Mps.SrcPins.SrcFrostKeygen.f_round3 := rfl
theorem gen_files : MpsGen.SrcFrostKeygen.files = Mps.SrcPins.SrcFrostKeygen.files := rfl

theorem gen_source :
    MpsGen.SrcFrostKeygen.f_config = Mps.SrcPins.SrcFrostKeygen.f_config ∧
    MpsGen.SrcFrostKeygen.f_keygen = Mps.SrcPins.SrcFrostKeygen.f_keygen ∧
    MpsGen.SrcFrostKeygen.f_round1 = Mps.SrcPins.SrcFrostKeygen.f_round1 ∧
    MpsGen.SrcFrostKeygen.f_round2 = Mps.SrcPins.SrcFrostKeygen.f_round2 ∧
    MpsGen.SrcFrostKeygen.f_round3 = Mps.SrcPins.SrcFrostKeygen.f_round3 ∧
    MpsGen.SrcFrostKeygen.files = Mps.SrcPins.SrcFrostKeygen.files :=
  ⟨gen_f_config, gen_f_keygen, gen_f_round1, gen_f_round2, gen_f_round3, gen_files⟩

end Mps.Src.SrcFrostKeygen
