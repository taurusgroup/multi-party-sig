import MpsGen.SrcLPkgZk
import Mps.SrcPins.SrcLPkgZk
/-
  The source of this protocol directory is, file by file and line by line, the text the judged real sessions were last
  validated against (Mps/SrcPins/SrcLPkgZk.lean, written by bin/mkroundpins). Any edit breaks the obligation below.
-/
namespace Mps.Src.SrcLPkgZk

theorem gen_f_default : MpsGen.SrcLPkgZk.f_default = Mps.SrcPins.SrcLPkgZk.f_default := rfl
theorem gen_files : MpsGen.SrcLPkgZk.files = Mps.SrcPins.SrcLPkgZk.files := rfl

theorem gen_source :
    MpsGen.SrcLPkgZk.f_default = Mps.SrcPins.SrcLPkgZk.f_default ∧
    MpsGen.SrcLPkgZk.files = Mps.SrcPins.SrcLPkgZk.files :=
  ⟨gen_f_default, gen_files⟩

end Mps.Src.SrcLPkgZk
