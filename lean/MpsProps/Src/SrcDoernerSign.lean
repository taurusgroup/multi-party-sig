import MpsGen.SrcDoernerSign
import Mps.SrcPins.SrcDoernerSign
/-
  The source of this protocol directory is, file by file and line by line, the text the judged real sessions were last
  validated against (Mps/SrcPins/SrcDoernerSign.lean, written by bin/mkroundpins). Any edit breaks the obligation below.
-/
namespace Mps.Src.SrcDoernerSign

theorem gen_f_round1R : MpsGen.SrcDoernerSign.f_round1R = Mps.SrcPins.SrcDoernerSign.f_round1R := rfl
theorem gen_f_round1S : MpsGen.SrcDoernerSign.f_round1S = Mps.SrcPins.SrcDoernerSign.f_round1S := rfl
theorem gen_f_round2R : MpsGen.SrcDoernerSign.f_round2R = Mps.SrcPins.SrcDoernerSign.f_round2R := rfl
theorem gen_f_round2S : MpsGen.SrcDoernerSign.f_round2S = Mps.SrcPins.SrcDoernerSign.f_round2S := rfl
theorem gen_f_sign : MpsGen.SrcDoernerSign.f_sign = Mps.SrcPins.SrcDoernerSign.f_sign := rfl
theorem gen_files : MpsGen.SrcDoernerSign.files = Mps.SrcPins.SrcDoernerSign.files := rfl

theorem gen_source :
    MpsGen.SrcDoernerSign.f_round1R = Mps.SrcPins.SrcDoernerSign.f_round1R ∧
    MpsGen.SrcDoernerSign.f_round1S = Mps.SrcPins.SrcDoernerSign.f_round1S ∧
    MpsGen.SrcDoernerSign.f_round2R = Mps.SrcPins.SrcDoernerSign.f_round2R ∧
    MpsGen.SrcDoernerSign.f_round2S = Mps.SrcPins.SrcDoernerSign.f_round2S ∧
    MpsGen.SrcDoernerSign.f_sign = Mps.SrcPins.SrcDoernerSign.f_sign ∧
    MpsGen.SrcDoernerSign.files = Mps.SrcPins.SrcDoernerSign.files :=
  ⟨gen_f_round1R, gen_f_round1S, gen_f_round2R, gen_f_round2S, gen_f_sign, gen_files⟩

end Mps.Src.SrcDoernerSign
