import MpsGen.SrcLPkgPool
import Mps.SrcPins.SrcLPkgPool
/-
  The source of this protocol directory is, file by file and line by line, the text the judged real sessions were last
  validated against (Mps/SrcPins/SrcLPkgPool.lean, written by bin/mkroundpins). Any edit breaks the obligation below.
-/
namespace Mps.Src.SrcLPkgPool

theorem gen_f_hook_noverif : MpsGen.SrcLPkgPool.f_hook_noverif = Mps.SrcPins.SrcLPkgPool.f_hook_noverif := rfl
theorem gen_f_hook_verif : MpsGen.SrcLPkgPool.f_hook_verif = Mps.SrcPins.SrcLPkgPool.f_hook_verif := rfl
theorem gen_f_pool : MpsGen.SrcLPkgPool.f_pool = Mps.SrcPins.SrcLPkgPool.f_pool := rfl
theorem gen_files : MpsGen.SrcLPkgPool.files = Mps.SrcPins.SrcLPkgPool.files := rfl

theorem gen_source :
    MpsGen.SrcLPkgPool.f_hook_noverif = Mps.SrcPins.SrcLPkgPool.f_hook_noverif ∧
    MpsGen.SrcLPkgPool.f_hook_verif = Mps.SrcPins.SrcLPkgPool.f_hook_verif ∧
    MpsGen.SrcLPkgPool.f_pool = Mps.SrcPins.SrcLPkgPool.f_pool ∧
    MpsGen.SrcLPkgPool.files = Mps.SrcPins.SrcLPkgPool.files :=
  ⟨gen_f_hook_noverif, gen_f_hook_verif, gen_f_pool, gen_files⟩

end Mps.Src.SrcLPkgPool
