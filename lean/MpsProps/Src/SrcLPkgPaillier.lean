import MpsGen.SrcLPkgPaillier
import Mps.SrcPins.SrcLPkgPaillier
/-
  The source of this protocol directory is, file by file and line by line, the text the judged real sessions were last
  validated against (Mps/SrcPins/SrcLPkgPaillier.lean, written by bin/mkroundpins). Any edit breaks the obligation below.
-/
namespace Mps.Src.SrcLPkgPaillier

theorem gen_f_ciphertext : MpsGen.SrcLPkgPaillier.f_ciphertext = Mps.SrcPins.SrcLPkgPaillier.f_ciphertext := rfl
theorem gen_f_public : MpsGen.SrcLPkgPaillier.f_public = Mps.SrcPins.SrcLPkgPaillier.f_public := rfl
theorem gen_f_secret : MpsGen.SrcLPkgPaillier.f_secret = Mps.SrcPins.SrcLPkgPaillier.f_secret := rfl
theorem gen_files : MpsGen.SrcLPkgPaillier.files = Mps.SrcPins.SrcLPkgPaillier.files := rfl

theorem gen_source :
    MpsGen.SrcLPkgPaillier.f_ciphertext = Mps.SrcPins.SrcLPkgPaillier.f_ciphertext ∧
    MpsGen.SrcLPkgPaillier.f_public = Mps.SrcPins.SrcLPkgPaillier.f_public ∧
    MpsGen.SrcLPkgPaillier.f_secret = Mps.SrcPins.SrcLPkgPaillier.f_secret ∧
    MpsGen.SrcLPkgPaillier.files = Mps.SrcPins.SrcLPkgPaillier.files :=
  ⟨gen_f_ciphertext, gen_f_public, gen_f_secret, gen_files⟩

end Mps.Src.SrcLPkgPaillier
