import MpsGen.SrcLInternalRound
import Mps.SrcPins.SrcLInternalRound
/-
  The source of this protocol directory is, file by file and line by line, the text the judged real sessions were last
  validated against (Mps/SrcPins/SrcLInternalRound.lean, written by bin/mkroundpins). Any edit breaks the obligation below.
-/
namespace Mps.Src.SrcLInternalRound

theorem gen_f_abort : MpsGen.SrcLInternalRound.f_abort = Mps.SrcPins.SrcLInternalRound.f_abort := rfl
theorem gen_f_error : MpsGen.SrcLInternalRound.f_error = Mps.SrcPins.SrcLInternalRound.f_error := rfl
theorem gen_f_helper : MpsGen.SrcLInternalRound.f_helper = Mps.SrcPins.SrcLInternalRound.f_helper := rfl
theorem gen_f_message : MpsGen.SrcLInternalRound.f_message = Mps.SrcPins.SrcLInternalRound.f_message := rfl
theorem gen_f_number : MpsGen.SrcLInternalRound.f_number = Mps.SrcPins.SrcLInternalRound.f_number := rfl
theorem gen_f_output : MpsGen.SrcLInternalRound.f_output = Mps.SrcPins.SrcLInternalRound.f_output := rfl
theorem gen_f_round : MpsGen.SrcLInternalRound.f_round = Mps.SrcPins.SrcLInternalRound.f_round := rfl
theorem gen_f_session : MpsGen.SrcLInternalRound.f_session = Mps.SrcPins.SrcLInternalRound.f_session := rfl
theorem gen_files : MpsGen.SrcLInternalRound.files = Mps.SrcPins.SrcLInternalRound.files := rfl

theorem gen_source :
    MpsGen.SrcLInternalRound.f_abort = Mps.SrcPins.SrcLInternalRound.f_abort ∧
    MpsGen.SrcLInternalRound.f_error = Mps.SrcPins.SrcLInternalRound.f_error ∧
    MpsGen.SrcLInternalRound.f_helper = Mps.SrcPins.SrcLInternalRound.f_helper ∧
    MpsGen.SrcLInternalRound.f_message = Mps.SrcPins.SrcLInternalRound.f_message ∧
    MpsGen.SrcLInternalRound.f_number = Mps.SrcPins.SrcLInternalRound.f_number ∧
    MpsGen.SrcLInternalRound.f_output = Mps.SrcPins.SrcLInternalRound.f_output ∧
    MpsGen.SrcLInternalRound.f_round = Mps.SrcPins.SrcLInternalRound.f_round ∧
    MpsGen.SrcLInternalRound.f_session = Mps.SrcPins.SrcLInternalRound.f_session ∧
    MpsGen.SrcLInternalRound.files = Mps.SrcPins.SrcLInternalRound.files :=
  ⟨gen_f_abort, gen_f_error, gen_f_helper, gen_f_message, gen_f_number, gen_f_output, gen_f_round, gen_f_session, gen_files⟩

end Mps.Src.SrcLInternalRound
