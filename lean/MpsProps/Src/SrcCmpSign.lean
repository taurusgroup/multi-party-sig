import MpsGen.SrcCmpSign
import Mps.SrcPins.SrcCmpSign
/-
  The source of this protocol directory is, file by file and line by line, the text the judged real sessions were last
  validated against (Mps/SrcPins/SrcCmpSign.lean, written by bin/mkroundpins). Any edit breaks the obligation below.
-/
namespace Mps.Src.SrcCmpSign

theorem gen_f_round1 : MpsGen.SrcCmpSign.f_round1 = Mps.SrcPins.SrcCmpSign.f_round1 := rfl
theorem gen_f_round2 : MpsGen.SrcCmpSign.f_round2 = Mps.SrcPins.SrcCmpSign.f_round2 := rfl
theorem gen_f_round3 : MpsGen.SrcCmpSign.f_round3 = Mps.SrcPins.SrcCmpSign.f_round3 := rfl
theorem gen_f_round4 : MpsGen.SrcCmpSign.f_round4 = Mps.SrcPins.SrcCmpSign.f_round4 := rfl
theorem gen_f_round5 : MpsGen.SrcCmpSign.f_round5 = Mps.SrcPins.SrcCmpSign.f_round5 := rfl
theorem gen_f_sign : MpsGen.SrcCmpSign.f_sign = Mps.SrcPins.SrcCmpSign.f_sign := rfl
theorem gen_files : MpsGen.SrcCmpSign.files = Mps.SrcPins.SrcCmpSign.files := rfl

theorem gen_source :
    MpsGen.SrcCmpSign.f_round1 = Mps.SrcPins.SrcCmpSign.f_round1 ∧
    MpsGen.SrcCmpSign.f_round2 = Mps.SrcPins.SrcCmpSign.f_round2 ∧
    MpsGen.SrcCmpSign.f_round3 = Mps.SrcPins.SrcCmpSign.f_round3 ∧
    MpsGen.SrcCmpSign.f_round4 = Mps.SrcPins.SrcCmpSign.f_round4 ∧
    MpsGen.SrcCmpSign.f_round5 = Mps.SrcPins.SrcCmpSign.f_round5 ∧
    MpsGen.SrcCmpSign.f_sign = Mps.SrcPins.SrcCmpSign.f_sign ∧
    MpsGen.SrcCmpSign.files = Mps.SrcPins.SrcCmpSign.files :=
  ⟨gen_f_round1, gen_f_round2, gen_f_round3, gen_f_round4, gen_f_round5, gen_f_sign, gen_files⟩

end Mps.Src.SrcCmpSign
