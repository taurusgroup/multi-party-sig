import MpsGen.SrcCmpConfig
import Mps.SrcPins.SrcCmpConfig
/-
  The source of this protocol directory is, file by file and line by line, the text the judged real sessions were last
  validated against (Mps/SrcPins/SrcCmpConfig.lean, written by bin/mkroundpins). Any edit breaks the obligation below.
-/
namespace Mps.Src.SrcCmpConfig

theorem gen_f_config : MpsGen.SrcCmpConfig.f_config = Mps.SrcPins.SrcCmpConfig.f_config := rfl
theorem gen_f_marshal : MpsGen.SrcCmpConfig.f_marshal = Mps.SrcPins.SrcCmpConfig.f_marshal := rfl
theorem gen_files : MpsGen.SrcCmpConfig.files = Mps.SrcPins.SrcCmpConfig.files := rfl

theorem gen_source :
    MpsGen.SrcCmpConfig.f_config = Mps.SrcPins.SrcCmpConfig.f_config ∧
    MpsGen.SrcCmpConfig.f_marshal = Mps.SrcPins.SrcCmpConfig.f_marshal ∧
    MpsGen.SrcCmpConfig.files = Mps.SrcPins.SrcCmpConfig.files :=
  ⟨gen_f_config, gen_f_marshal, gen_files⟩

end Mps.Src.SrcCmpConfig
