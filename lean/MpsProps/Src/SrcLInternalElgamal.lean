import MpsGen.SrcLInternalElgamal
import Mps.SrcPins.SrcLInternalElgamal
/-
  The source of this protocol directory is, file by file and line by line, the text the judged real sessions were last
  validated against (Mps/SrcPins/SrcLInternalElgamal.lean, written by bin/mkroundpins). Any edit breaks the obligation below.
-/
namespace Mps.Src.SrcLInternalElgamal

theorem gen_f_elgamal : MpsGen.SrcLInternalElgamal.f_elgamal = Mps.SrcPins.SrcLInternalElgamal.f_elgamal := rfl
theorem gen_files : MpsGen.SrcLInternalElgamal.files = Mps.SrcPins.SrcLInternalElgamal.files := rfl

theorem gen_source :
    MpsGen.SrcLInternalElgamal.f_elgamal = Mps.SrcPins.SrcLInternalElgamal.f_elgamal ∧
    MpsGen.SrcLInternalElgamal.files = Mps.SrcPins.SrcLInternalElgamal.files :=
  ⟨gen_f_elgamal, gen_files⟩

end Mps.Src.SrcLInternalElgamal
