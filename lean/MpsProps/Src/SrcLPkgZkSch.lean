import MpsGen.SrcLPkgZkSch
import Mps.SrcPins.SrcLPkgZkSch
/-
  The source of this protocol directory is, file by file and line by line, the text the judged real sessions were last
  validated against (Mps/SrcPins/SrcLPkgZkSch.lean, written by bin/mkroundpins). Any edit breaks the obligation below.
-/
namespace Mps.Src.SrcLPkgZkSch

theorem gen_f_sch : MpsGen.SrcLPkgZkSch.f_sch = Mps.SrcPins.SrcLPkgZkSch.f_sch := rfl
theorem gen_files : MpsGen.SrcLPkgZkSch.files = Mps.SrcPins.SrcLPkgZkSch.files := rfl

theorem gen_source :
    MpsGen.SrcLPkgZkSch.f_sch = Mps.SrcPins.SrcLPkgZkSch.f_sch ∧
    MpsGen.SrcLPkgZkSch.files = Mps.SrcPins.SrcLPkgZkSch.files :=
  ⟨gen_f_sch, gen_files⟩

end Mps.Src.SrcLPkgZkSch
