import MpsGen.SrcLProtocolsFrost
import Mps.SrcPins.SrcLProtocolsFrost
/-
  The source of this protocol directory is, file by file and line by line, the text the judged real sessions were last
  validated against (Mps/SrcPins/SrcLProtocolsFrost.lean, written by bin/mkroundpins). Any edit breaks the obligation below.
-/
namespace Mps.Src.SrcLProtocolsFrost

theorem gen_f_frost : MpsGen.SrcLProtocolsFrost.f_frost = Mps.SrcPins.SrcLProtocolsFrost.f_frost := rfl
theorem gen_files : MpsGen.SrcLProtocolsFrost.files = Mps.SrcPins.SrcLProtocolsFrost.files := rfl

theorem gen_source :
    MpsGen.SrcLProtocolsFrost.f_frost = Mps.SrcPins.SrcLProtocolsFrost.f_frost ∧
    MpsGen.SrcLProtocolsFrost.files = Mps.SrcPins.SrcLProtocolsFrost.files :=
  ⟨gen_f_frost, gen_files⟩

end Mps.Src.SrcLProtocolsFrost
