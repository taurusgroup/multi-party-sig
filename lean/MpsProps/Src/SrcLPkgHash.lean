import MpsGen.SrcLPkgHash
import Mps.SrcPins.SrcLPkgHash
/-
  The source of this protocol directory is, file by file and line by line, the text the judged real sessions were last
  validated against (Mps/SrcPins/SrcLPkgHash.lean, written by bin/mkroundpins). Any edit breaks the obligation below.
-/
namespace Mps.Src.SrcLPkgHash

theorem gen_f_commit : MpsGen.SrcLPkgHash.f_commit = Mps.SrcPins.SrcLPkgHash.f_commit := rfl
theorem gen_f_hash : MpsGen.SrcLPkgHash.f_hash = Mps.SrcPins.SrcLPkgHash.f_hash := rfl
theorem gen_f_writerto : MpsGen.SrcLPkgHash.f_writerto = Mps.SrcPins.SrcLPkgHash.f_writerto := rfl
theorem gen_files : MpsGen.SrcLPkgHash.files = Mps.SrcPins.SrcLPkgHash.files := rfl

theorem gen_source :
    MpsGen.SrcLPkgHash.f_commit = Mps.SrcPins.SrcLPkgHash.f_commit ∧
    MpsGen.SrcLPkgHash.f_hash = Mps.SrcPins.SrcLPkgHash.f_hash ∧
    MpsGen.SrcLPkgHash.f_writerto = Mps.SrcPins.SrcLPkgHash.f_writerto ∧
    MpsGen.SrcLPkgHash.files = Mps.SrcPins.SrcLPkgHash.files :=
  ⟨gen_f_commit, gen_f_hash, gen_f_writerto, gen_files⟩

end Mps.Src.SrcLPkgHash
