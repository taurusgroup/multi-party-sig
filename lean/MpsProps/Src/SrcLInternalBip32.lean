import MpsGen.SrcLInternalBip32
import Mps.SrcPins.SrcLInternalBip32
/-
  The source of this protocol directory is, file by file and line by line, the text the judged real sessions were last
  validated against (Mps/SrcPins/SrcLInternalBip32.lean, written by bin/mkroundpins). Any edit breaks the obligation below.
-/
namespace Mps.Src.SrcLInternalBip32

theorem gen_f_bip32 : MpsGen.SrcLInternalBip32.f_bip32 = Mps.SrcPins.SrcLInternalBip32.f_bip32 := rfl
theorem gen_files : MpsGen.SrcLInternalBip32.files = Mps.SrcPins.SrcLInternalBip32.files := rfl

theorem gen_source :
    MpsGen.SrcLInternalBip32.f_bip32 = Mps.SrcPins.SrcLInternalBip32.f_bip32 ∧
    MpsGen.SrcLInternalBip32.files = Mps.SrcPins.SrcLInternalBip32.files :=
  ⟨gen_f_bip32, gen_files⟩

end Mps.Src.SrcLInternalBip32
