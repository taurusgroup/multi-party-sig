import MpsGen.SrcFrostSign
import Mps.SrcPins.SrcFrostSign
/-
  The source of this protocol directory is, file by file and line by line, the text the judged real sessions were last
  validated against (Mps/SrcPins/SrcFrostSign.lean, written by bin/mkroundpins). Any edit breaks the obligation below.
-/
namespace Mps.Src.SrcFrostSign

theorem gen_f_round1 : MpsGen.SrcFrostSign.f_round1 = Mps.SrcPins.SrcFrostSign.f_round1 := rfl
theorem gen_f_round2 : MpsGen.SrcFrostSign.f_round2 = Mps.SrcPins.SrcFrostSign.f_round2 := rfl
theorem gen_f_round3 : MpsGen.SrcFrostSign.f_round3 = Mps.SrcPins.SrcFrostSign.f_round3 := rfl
theorem gen_f_sign : MpsGen.SrcFrostSign.f_sign = Mps.SrcPins.SrcFrostSign.f_sign := rfl
theorem gen_f_types : MpsGen.SrcFrostSign.f_types = Mps.SrcPins.SrcFrostSign.f_types := rfl
theorem gen_files : MpsGen.SrcFrostSign.files = Mps.SrcPins.SrcFrostSign.files := rfl

theorem gen_source :
    MpsGen.SrcFrostSign.f_round1 = Mps.SrcPins.SrcFrostSign.f_round1 ∧
    MpsGen.SrcFrostSign.f_round2 = Mps.SrcPins.SrcFrostSign.f_round2 ∧
    MpsGen.SrcFrostSign.f_round3 = Mps.SrcPins.SrcFrostSign.f_round3 ∧
    MpsGen.SrcFrostSign.f_sign = Mps.SrcPins.SrcFrostSign.f_sign ∧
    MpsGen.SrcFrostSign.f_types = Mps.SrcPins.SrcFrostSign.f_types ∧
    MpsGen.SrcFrostSign.files = Mps.SrcPins.SrcFrostSign.files :=
  ⟨gen_f_round1, gen_f_round2, gen_f_round3, gen_f_sign, gen_f_types, gen_files⟩

end Mps.Src.SrcFrostSign
