import MpsGen.SrcLProtocolsCmp
import Mps.SrcPins.SrcLProtocolsCmp
/-
  The source of this protocol directory is, file by file and line by line, the text the judged real sessions were last
  validated against (Mps/SrcPins/SrcLProtocolsCmp.lean, written by bin/mkroundpins). Any edit breaks the obligation below.
-/
namespace Mps.Src.SrcLProtocolsCmp

theorem gen_f_cmp : MpsGen.SrcLProtocolsCmp.f_cmp = Mps.SrcPins.SrcLProtocolsCmp.f_cmp := rfl
theorem gen_files : MpsGen.SrcLProtocolsCmp.files = Mps.SrcPins.SrcLProtocolsCmp.files := rfl

theorem gen_source :
    MpsGen.SrcLProtocolsCmp.f_cmp = Mps.SrcPins.SrcLProtocolsCmp.f_cmp ∧
    MpsGen.SrcLProtocolsCmp.files = Mps.SrcPins.SrcLProtocolsCmp.files :=
  ⟨gen_f_cmp, gen_files⟩

end Mps.Src.SrcLProtocolsCmp
