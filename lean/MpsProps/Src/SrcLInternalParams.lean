import MpsGen.SrcLInternalParams
import Mps.SrcPins.SrcLInternalParams
/-
  The source of this protocol directory is, file by file and line by line, the text the judged real sessions were last
  validated against (Mps/SrcPins/SrcLInternalParams.lean, written by bin/mkroundpins). Any edit breaks the obligation below.
-/
namespace Mps.Src.SrcLInternalParams

theorem gen_f_params : MpsGen.SrcLInternalParams.f_params = Mps.SrcPins.SrcLInternalParams.f_params := rfl
theorem gen_files : MpsGen.SrcLInternalParams.files = Mps.SrcPins.SrcLInternalParams.files := rfl

theorem gen_source :
    MpsGen.SrcLInternalParams.f_params = Mps.SrcPins.SrcLInternalParams.f_params ∧
    MpsGen.SrcLInternalParams.files = Mps.SrcPins.SrcLInternalParams.files :=
  ⟨gen_f_params, gen_files⟩

end Mps.Src.SrcLInternalParams
