import MpsGen.SrcLPkgZkLog
import Mps.SrcPins.SrcLPkgZkLog
/-
  The source of this protocol directory is, file by file and line by line, the text the judged real sessions were last
  validated against (Mps/SrcPins/SrcLPkgZkLog.lean, written by bin/mkroundpins). Any edit breaks the obligation below.
-/
namespace Mps.Src.SrcLPkgZkLog

theorem gen_f_log : MpsGen.SrcLPkgZkLog.f_log = Mps.SrcPins.SrcLPkgZkLog.f_log := rfl
theorem gen_files : MpsGen.SrcLPkgZkLog.files = Mps.SrcPins.SrcLPkgZkLog.files := rfl

theorem gen_source :
    MpsGen.SrcLPkgZkLog.f_log = Mps.SrcPins.SrcLPkgZkLog.f_log ∧
    MpsGen.SrcLPkgZkLog.files = Mps.SrcPins.SrcLPkgZkLog.files :=
  ⟨gen_f_log, gen_files⟩

end Mps.Src.SrcLPkgZkLog
