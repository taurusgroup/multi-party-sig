import MpsGen.SrcLPkgPedersen
import Mps.SrcPins.SrcLPkgPedersen
/-
  The source of this protocol directory is, file by file and line by line, the text the judged real sessions were last
  validated against (Mps/SrcPins/SrcLPkgPedersen.lean, written by bin/mkroundpins). Any edit breaks the obligation below.
-/
namespace Mps.Src.SrcLPkgPedersen

theorem gen_f_pedersen : MpsGen.SrcLPkgPedersen.f_pedersen = Mps.SrcPins.SrcLPkgPedersen.f_pedersen := rfl
theorem gen_files : MpsGen.SrcLPkgPedersen.files = Mps.SrcPins.SrcLPkgPedersen.files := rfl

theorem gen_source :
    MpsGen.SrcLPkgPedersen.f_pedersen = Mps.SrcPins.SrcLPkgPedersen.f_pedersen ∧
    MpsGen.SrcLPkgPedersen.files = Mps.SrcPins.SrcLPkgPedersen.files :=
  ⟨gen_f_pedersen, gen_files⟩

end Mps.Src.SrcLPkgPedersen
