import MpsGen.SrcLPkgZkDec
import Mps.SrcPins.SrcLPkgZkDec
/-
  The source of this protocol directory is, file by file and line by line, the text the judged real sessions were last
  validated against (Mps/SrcPins/SrcLPkgZkDec.lean, written by bin/mkroundpins). Any edit breaks the obligation below.
-/
namespace Mps.Src.SrcLPkgZkDec

theorem gen_f_dec : MpsGen.SrcLPkgZkDec.f_dec = Mps.SrcPins.SrcLPkgZkDec.f_dec := rfl
theorem gen_files : MpsGen.SrcLPkgZkDec.files = Mps.SrcPins.SrcLPkgZkDec.files := rfl

theorem gen_source :
    MpsGen.SrcLPkgZkDec.f_dec = Mps.SrcPins.SrcLPkgZkDec.f_dec ∧
    MpsGen.SrcLPkgZkDec.files = Mps.SrcPins.SrcLPkgZkDec.files :=
  ⟨gen_f_dec, gen_files⟩

end Mps.Src.SrcLPkgZkDec
