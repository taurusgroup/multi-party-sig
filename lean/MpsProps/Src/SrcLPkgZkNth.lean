import MpsGen.SrcLPkgZkNth
import Mps.SrcPins.SrcLPkgZkNth
/-
  The source of this protocol directory is, file by file and line by line, the text the judged real sessions were last
  validated against (Mps/SrcPins/SrcLPkgZkNth.lean, written by bin/mkroundpins). Any edit breaks the obligation below.
-/
namespace Mps.Src.SrcLPkgZkNth

theorem gen_f_nth : MpsGen.SrcLPkgZkNth.f_nth = Mps.SrcPins.SrcLPkgZkNth.f_nth := rfl
theorem gen_files : MpsGen.SrcLPkgZkNth.files = Mps.SrcPins.SrcLPkgZkNth.files := rfl

theorem gen_source :
    MpsGen.SrcLPkgZkNth.f_nth = Mps.SrcPins.SrcLPkgZkNth.f_nth ∧
    MpsGen.SrcLPkgZkNth.files = Mps.SrcPins.SrcLPkgZkNth.files :=
  ⟨gen_f_nth, gen_files⟩

end Mps.Src.SrcLPkgZkNth
