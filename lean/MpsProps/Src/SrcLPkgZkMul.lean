import MpsGen.SrcLPkgZkMul
import Mps.SrcPins.SrcLPkgZkMul
/-
  The source of this protocol directory is, file by file and line by line, the text the judged real sessions were last
  validated against (Mps/SrcPins/SrcLPkgZkMul.lean, written by bin/mkroundpins). Any edit breaks the obligation below.
-/
namespace Mps.Src.SrcLPkgZkMul

theorem gen_f_mul : MpsGen.SrcLPkgZkMul.f_mul = Mps.SrcPins.SrcLPkgZkMul.f_mul := rfl
theorem gen_files : MpsGen.SrcLPkgZkMul.files = Mps.SrcPins.SrcLPkgZkMul.files := rfl

theorem gen_source :
    MpsGen.SrcLPkgZkMul.f_mul = Mps.SrcPins.SrcLPkgZkMul.f_mul ∧
    MpsGen.SrcLPkgZkMul.files = Mps.SrcPins.SrcLPkgZkMul.files :=
  ⟨gen_f_mul, gen_files⟩

end Mps.Src.SrcLPkgZkMul
