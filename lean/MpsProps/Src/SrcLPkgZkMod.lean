import MpsGen.SrcLPkgZkMod
import Mps.SrcPins.SrcLPkgZkMod
/-
  The source of this protocol directory is, file by file and line by line, the text the judged real sessions were last
  validated against (Mps/SrcPins/SrcLPkgZkMod.lean, written by bin/mkroundpins). Any edit breaks the obligation below.
-/
namespace Mps.Src.SrcLPkgZkMod

theorem gen_f_mod : MpsGen.SrcLPkgZkMod.f_mod = Mps.SrcPins.SrcLPkgZkMod.f_mod := rfl
theorem gen_files : MpsGen.SrcLPkgZkMod.files = Mps.SrcPins.SrcLPkgZkMod.files := rfl

theorem gen_source :
    MpsGen.SrcLPkgZkMod.f_mod = Mps.SrcPins.SrcLPkgZkMod.f_mod ∧
    MpsGen.SrcLPkgZkMod.files = Mps.SrcPins.SrcLPkgZkMod.files :=
  ⟨gen_f_mod, gen_files⟩

end Mps.Src.SrcLPkgZkMod
