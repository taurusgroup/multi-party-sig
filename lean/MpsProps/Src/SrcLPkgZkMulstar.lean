import MpsGen.SrcLPkgZkMulstar
import Mps.SrcPins.SrcLPkgZkMulstar
/-
  The source of this protocol directory is, file by file and line by line, the text the judged real sessions were last
  validated against (Mps/SrcPins/SrcLPkgZkMulstar.lean, written by bin/mkroundpins). Any edit breaks the obligation below.
-/
namespace Mps.Src.SrcLPkgZkMulstar

theorem gen_f_mulstar : MpsGen.SrcLPkgZkMulstar.f_mulstar = Mps.SrcPins.SrcLPkgZkMulstar.f_mulstar := rfl
theorem gen_files : MpsGen.SrcLPkgZkMulstar.files = Mps.SrcPins.SrcLPkgZkMulstar.files := rfl

theorem gen_source :
    MpsGen.SrcLPkgZkMulstar.f_mulstar = Mps.SrcPins.SrcLPkgZkMulstar.f_mulstar ∧
    MpsGen.SrcLPkgZkMulstar.files = Mps.SrcPins.SrcLPkgZkMulstar.files :=
  ⟨gen_f_mulstar, gen_files⟩

end Mps.Src.SrcLPkgZkMulstar
