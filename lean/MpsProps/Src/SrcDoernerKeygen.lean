import MpsGen.SrcDoernerKeygen
import Mps.SrcPins.SrcDoernerKeygen
/-
  The source of this protocol directory is, file by file and line by line, the text the judged real sessions were last
  validated against (Mps/SrcPins/SrcDoernerKeygen.lean, written by bin/mkroundpins). Any edit breaks the obligation below.
-/
namespace Mps.Src.SrcDoernerKeygen

theorem gen_f_keygen : MpsGen.SrcDoernerKeygen.f_keygen = Mps.SrcPins.SrcDoernerKeygen.f_keygen := rfl
theorem gen_f_round1R : MpsGen.SrcDoernerKeygen.f_round1R = Mps.SrcPins.SrcDoernerKeygen.f_round1R := rfl
theorem gen_f_round1S : MpsGen.SrcDoernerKeygen.f_round1S = Mps.SrcPins.SrcDoernerKeygen.f_round1S := rfl
theorem gen_f_round2R : MpsGen.SrcDoernerKeygen.f_round2R = Mps.SrcPins.SrcDoernerKeygen.f_round2R := rfl
theorem gen_f_round2S : MpsGen.SrcDoernerKeygen.f_round2S = Mps.SrcPins.SrcDoernerKeygen.f_round2S := rfl
theorem gen_f_round3R : MpsGen.SrcDoernerKeygen.f_round3R = Mps.SrcPins.SrcDoernerKeygen.f_round3R := rfl
theorem gen_f_round3S : MpsGen.SrcDoernerKeygen.f_round3S = Mps.SrcPins.SrcDoernerKeygen.f_round3S := rfl
theorem gen_files : MpsGen.SrcDoernerKeygen.files = Mps.SrcPins.SrcDoernerKeygen.files := rfl

theorem gen_source :
    MpsGen.SrcDoernerKeygen.f_keygen = Mps.SrcPins.SrcDoernerKeygen.f_keygen ∧
    MpsGen.SrcDoernerKeygen.f_round1R = Mps.SrcPins.SrcDoernerKeygen.f_round1R ∧
    MpsGen.SrcDoernerKeygen.f_round1S = Mps.SrcPins.SrcDoernerKeygen.f_round1S ∧
    MpsGen.SrcDoernerKeygen.f_round2R = Mps.SrcPins.SrcDoernerKeygen.f_round2R ∧
    MpsGen.SrcDoernerKeygen.f_round2S = Mps.SrcPins.SrcDoernerKeygen.f_round2S ∧
    MpsGen.SrcDoernerKeygen.f_round3R = Mps.SrcPins.SrcDoernerKeygen.f_round3R ∧
    MpsGen.SrcDoernerKeygen.f_round3S = Mps.SrcPins.SrcDoernerKeygen.f_round3S ∧
    MpsGen.SrcDoernerKeygen.files = Mps.SrcPins.SrcDoernerKeygen.files :=
  ⟨gen_f_keygen, gen_f_round1R, gen_f_round1S, gen_f_round2R, gen_f_round2S, gen_f_round3R, gen_f_round3S, gen_files⟩

end Mps.Src.SrcDoernerKeygen
