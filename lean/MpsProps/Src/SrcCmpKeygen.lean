import MpsGen.SrcCmpKeygen
import Mps.SrcPins.SrcCmpKeygen
/-
  The source of this protocol directory is, file by file and line by line, the text the judged real sessions were last
  validated against (Mps/SrcPins/SrcCmpKeygen.lean, written by bin/mkroundpins). Any edit breaks the obligation below.
-/
namespace Mps.Src.SrcCmpKeygen

theorem gen_f_keygen : MpsGen.SrcCmpKeygen.f_keygen = Mps.SrcPins.SrcCmpKeygen.f_keygen := rfl
theorem gen_f_round1 : MpsGen.SrcCmpKeygen.f_round1 = Mps.SrcPins.SrcCmpKeygen.f_round1 := rfl
theorem gen_f_round2 : MpsGen.SrcCmpKeygen.f_round2 = Mps.SrcPins.SrcCmpKeygen.f_round2 := rfl
theorem gen_f_round3 : MpsGen.SrcCmpKeygen.f_round3 = Mps.SrcPins.SrcCmpKeygen.f_round3 := rfl
theorem gen_f_round4 : MpsGen.SrcCmpKeygen.f_round4 = Mps.SrcPins.SrcCmpKeygen.f_round4 := rfl
theorem gen_f_round5 : MpsGen.SrcCmpKeygen.f_round5 = Mps.SrcPins.SrcCmpKeygen.f_round5 := rfl
theorem gen_files : MpsGen.SrcCmpKeygen.files = Mps.SrcPins.SrcCmpKeygen.files := rfl

theorem gen_source :
    MpsGen.SrcCmpKeygen.f_keygen = Mps.SrcPins.SrcCmpKeygen.f_keygen ∧
    MpsGen.SrcCmpKeygen.f_round1 = Mps.SrcPins.SrcCmpKeygen.f_round1 ∧
    MpsGen.SrcCmpKeygen.f_round2 = Mps.SrcPins.SrcCmpKeygen.f_round2 ∧
    MpsGen.SrcCmpKeygen.f_round3 = Mps.SrcPins.SrcCmpKeygen.f_round3 ∧
    MpsGen.SrcCmpKeygen.f_round4 = Mps.SrcPins.SrcCmpKeygen.f_round4 ∧
    MpsGen.SrcCmpKeygen.f_round5 = Mps.SrcPins.SrcCmpKeygen.f_round5 ∧
    MpsGen.SrcCmpKeygen.files = Mps.SrcPins.SrcCmpKeygen.files :=
  ⟨gen_f_keygen, gen_f_round1, gen_f_round2, gen_f_round3, gen_f_round4, gen_f_round5, gen_files⟩

end Mps.Src.SrcCmpKeygen
