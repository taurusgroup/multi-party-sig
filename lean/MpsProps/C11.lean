import MpsProps.Anchors.C11
import MpsProofs.Nonce
import MpsProofs.Readers
import MpsGen.Nonce
import MpsGen.Sig
import MpsGen.Hash
/-
  C11 — Signing nonces never repeat across contexts, even if the RNG fails.
  Property theorems only (lemmas live in MpsProofs/Nonce.lean and MpsProofs/Readers.lean). Core-only.

  Shape of the argument. The published commitments are a deterministic function of the nonce
  pair, and the nonce pair is   KH (KDF share) (ssidDigest ‖ m ‖ a)   where KH is the keyed
  BLAKE3 XOF followed by `sample.ScalarUnit` twice. The theorems show that the ARGUMENTS of the
  hash functions separate any two different contexts — for every value of the random bytes `a`,
  equal ones included — so that equal nonces force an explicit collision of one of the three
  hash functions (all abstract here).
-/
namespace Mps.C11
open Mps.Nonce Mps.Sig

/-- The byte string written into the nonce hasher, ssidDigest(64) ‖ m ‖ a(32), determines
    (ssid digest, message, random bytes): the message needs no length prefix because both of its
    neighbours have a fixed width. -/
theorem frost_nonce_input_injective (sd sd' m m' a a' : Bytes)
    (hs : sd.length = 64) (hs' : sd'.length = 64) (ha : a.length = 32) (ha' : a'.length = 32)
    (h : frostNonceInput sd m a = frostNonceInput sd' m' a') : sd = sd' ∧ m = m' ∧ a = a' :=
  frostNonceInput_inj sd sd' m m' a a' (hs.trans hs'.symm) (ha.trans ha'.symm) h

/-- validity domain of a signing context: what Go's types and `round.NewSession` guarantee
    (lengths fit the 8-byte length fields, threshold is a uint32, 32 random bytes) -/
structure CtxWF (c : FrostCtx) : Prop where
  sess  : SessionWF c.signers c.thr
  items : ∀ i ∈ sessionItems c.session, i.WF
  alen  : c.a.length = 32

/-- The SSID digest separates session id (present or not), protocol variant, signer set and
    threshold — or the session hash collides on two explicitly given transcripts. -/
theorem frost_ssid_injective (H : Bytes → Bytes) (c c' : FrostCtx) (w : CtxWF c) (w' : CtxWF c')
    (h : ssidWith H c.session = ssidWith H c'.session) :
    (c.sid = c'.sid ∧ c.taproot = c'.taproot ∧ c.signers = c'.signers ∧ c.thr = c'.thr) ∨
    (transcript (sessionItems c.session) ≠ transcript (sessionItems c'.session) ∧
      H (transcript (sessionItems c.session)) = H (transcript (sessionItems c'.session))) :=
  (hash_transcript_inj H _ _ w.items w'.items h).imp_left (frostSession_items_inj _ _ _ _ _ _ _ _ w.sess w'.sess)

/-- MAIN (FROST). Two signing contexts with the same nonce pair are the same context — same
    share, session id, variant, signer set, threshold, message AND random bytes — unless one of
    the three hash functions collides on explicitly given, different inputs. `KH key data` stands
    for everything computed from the keyed hasher (XOF stream, `ScalarUnit` twice).
    Read contrapositively: contexts differing in message, signer set, session id, variant or
    share get different (key, data), whatever the random source returned. -/
theorem frost_nonce_context_separation {β : Type} (H KDF : Bytes → Bytes) (KH : Bytes → Bytes → β)
    (hH : ∀ x, (H x).length = 64) (c c' : FrostCtx) (w : CtxWF c) (w' : CtxWF c')
    (heq : KH (KDF c.share) (frostNonceInput (ssidWith H c.session) c.m c.a) =
           KH (KDF c'.share) (frostNonceInput (ssidWith H c'.session) c'.m c'.a)) :
    c = c'
    ∨ (transcript (sessionItems c.session) ≠ transcript (sessionItems c'.session) ∧
        H (transcript (sessionItems c.session)) = H (transcript (sessionItems c'.session)))
    ∨ (c.share ≠ c'.share ∧ KDF c.share = KDF c'.share)
    ∨ ((KDF c.share, frostNonceInput (ssidWith H c.session) c.m c.a) ≠
         (KDF c'.share, frostNonceInput (ssidWith H c'.session) c'.m c'.a) ∧
        KH (KDF c.share) (frostNonceInput (ssidWith H c.session) c.m c.a) =
          KH (KDF c'.share) (frostNonceInput (ssidWith H c'.session) c'.m c'.a)) := by
  by_cases e : (KDF c.share, frostNonceInput (ssidWith H c.session) c.m c.a) =
      (KDF c'.share, frostNonceInput (ssidWith H c'.session) c'.m c'.a)
  · obtain ⟨ek, ei⟩ := Prod.mk.inj e
    have hin := frost_nonce_input_injective _ _ _ _ _ _ (hH _) (hH _) w.alen w'.alen ei
    by_cases es : c.share = c'.share
    · rcases frost_ssid_injective H c c' w w' hin.1 with hp | hcol
      · left
        cases c; cases c'
        simp only [FrostCtx.mk.injEq]
        exact ⟨es, hp.1, hp.2.1, hp.2.2.1, hp.2.2.2, hin.2.1, hin.2.2⟩
      · right; left; exact hcol
    · right; right; left; exact ⟨es, ek⟩
  · right; right; right; exact ⟨e, heq⟩

/-- The contrapositive with `KH := noncePair ∘ KX`, the executable derivation: different contexts get different nonce
    pairs (hence different commitments D_i, E_i) unless one of the three functions collides; two `none`
    (`ScalarUnit` giving up) count as equal. -/
theorem frost_nonces_differ (H KDF : Bytes → Bytes) (KX : Bytes → Bytes → Nat → Bytes)
    (hH : ∀ x, (H x).length = 64) (c c' : FrostCtx) (w : CtxWF c) (w' : CtxWF c') (hne : c ≠ c') :
    c.noncesWith H KDF KX ≠ c'.noncesWith H KDF KX
    ∨ (transcript (sessionItems c.session) ≠ transcript (sessionItems c'.session) ∧
        H (transcript (sessionItems c.session)) = H (transcript (sessionItems c'.session)))
    ∨ (c.share ≠ c'.share ∧ KDF c.share = KDF c'.share)
    ∨ ((KDF c.share, frostNonceInput (ssidWith H c.session) c.m c.a) ≠
         (KDF c'.share, frostNonceInput (ssidWith H c'.session) c'.m c'.a) ∧
        noncePair (KX (KDF c.share) (frostNonceInput (ssidWith H c.session) c.m c.a)) =
          noncePair (KX (KDF c'.share) (frostNonceInput (ssidWith H c'.session) c'.m c'.a))) := by
  by_cases e : c.noncesWith H KDF KX = c'.noncesWith H KDF KX
  · right
    rcases frost_nonce_context_separation H KDF (fun k i => noncePair (KX k i)) hH c c' w w' e with h | h
    · exact absurd h hne
    · exact h
  · left; exact e

/-- With a working random source the derivation differs even for identical inputs: different
    random bytes give a different keyed-hash input (no width assumption needed). -/
theorem frost_nonce_rng_sensitive (sd m a a' : Bytes) (h : a ≠ a') :
    frostNonceInput sd m a ≠ frostNonceInput sd m a' := by
  intro e
  unfold frostNonceInput at e
  exact h (List.append_cancel_left e)

/-- the list `Sign` hands to `TaggedHash("BIP0340/nonce", …)` is the byte string `nonceInput` -/
theorem nonce_hash_input_eq (d h P m : Bytes) :
    ([bytesXor d h, P, m] : List Bytes).flatten = Bip340.nonceInput d h P m := by
  simp [Bip340.nonceInput]

/-- t(32) ‖ P(32) ‖ m determines (t, P, m); for the same secret d, t = d ⊕ hash_aux(a)
    determines hash_aux(a), hence a — or hash_aux collides on (a, a'). -/
theorem bip340_nonce_input_injective (Haux : Bytes → Bytes) (hlen : ∀ x, (Haux x).length = 32)
    (d d' P P' m m' a a' : Bytes) (hd : d.length = 32) (hd' : d'.length = 32)
    (hP : P.length = 32) (hP' : P'.length = 32)
    (e : Bip340.nonceInput d (Haux a) P m = Bip340.nonceInput d' (Haux a') P' m') :
    P = P' ∧ m = m' ∧ (d = d' → a = a' ∨ (a ≠ a' ∧ Haux a = Haux a')) := by
  have h := nonceInput_inj d d' (Haux a) (Haux a') P P' m m'
    (by rw [bytesXor_length, bytesXor_length, hd, hd', hlen a, hlen a']) (hP.trans hP'.symm) e
  refine ⟨h.2.1, h.2.2, ?_⟩
  intro edd
  subst edd
  have hx := bytesXor_cancel d (Haux a) (Haux a') ((hlen a).trans (hlen a').symm) (by rw [hlen a, hd]; exact Nat.le_refl _) h.1
  by_cases ea : a = a'
  · exact Or.inl ea
  · exact Or.inr ⟨ea, hx⟩

/-- … through the nonce hash: equal `rand` values for two calls. -/
theorem bip340_nonce_separation (Haux Hnonce : Bytes → Bytes) (hlen : ∀ x, (Haux x).length = 32)
    (d d' P P' m m' a a' : Bytes) (hd : d.length = 32) (hd' : d'.length = 32)
    (hP : P.length = 32) (hP' : P'.length = 32)
    (e : Hnonce (Bip340.nonceInput d (Haux a) P m) = Hnonce (Bip340.nonceInput d' (Haux a') P' m')) :
    (P = P' ∧ m = m' ∧ (d = d' → a = a' ∨ (a ≠ a' ∧ Haux a = Haux a')))
    ∨ (Bip340.nonceInput d (Haux a) P m ≠ Bip340.nonceInput d' (Haux a') P' m' ∧
        Hnonce (Bip340.nonceInput d (Haux a) P m) = Hnonce (Bip340.nonceInput d' (Haux a') P' m')) := by
  by_cases ei : Bip340.nonceInput d (Haux a) P m = Bip340.nonceInput d' (Haux a') P' m'
  · exact Or.inl (bip340_nonce_input_injective Haux hlen d d' P P' m m' a a' hd hd' hP hP' ei)
  · exact Or.inr ⟨ei, e⟩

/-- rand == nil: the k-th call after the counter stood at `c0` uses the value
    (c0 + k + 1) mod 2^64 (`atomic.AddUint64`). Any two of fewer than 2^64 calls get different
    auxiliary bytes `a`. -/
theorem bip340_counter_distinct (c0 i j : Nat) (hi : i < 2 ^ 64) (hj : j < 2 ^ 64) (hij : i ≠ j) :
    Bip340.auxOf (.counter ((c0 + i + 1) % 2 ^ 64)) ≠ Bip340.auxOf (.counter ((c0 + j + 1) % 2 ^ 64)) := by
  intro e
  have := auxOf_counter_inj _ _ e
  rw [Nat.mod_mod, Nat.mod_mod] at this
  omega

/-- the ordered writes of round1.Finalize: key from the share, then ssid digest ‖ message ‖ a,
    then two `ScalarUnit` reads from ONE digest reader, then the two base-point multiplications -/
theorem gen_frost_round1 : MpsGen.Nonce.frostRound1 =
    [ "r.s_i.MarshalBinary()",
      "make([]byte, 32)",
      "blake3.DeriveKey(deriveHashKeyContext, s_iBytes[:], hashKey)",
      "blake3.NewKeyed(hashKey)",
      "nonceHasher.Write(r.Hash().Sum())",
      "r.Hash().Sum()",
      "r.Hash()",
      "nonceHasher.Write(r.M)",
      "make([]byte, 32)",
      "rand.Read(a)",
      "nonceHasher.Write(a)",
      "nonceHasher.Digest()",
      "sample.ScalarUnit(nonceDigest, r.Group())",
      "sample.ScalarUnit(nonceDigest, r.Group())",
      "d_i.ActOnBase()",
      "e_i.ActOnBase()" ] := rfl

/-- `hash.Hash.Sum` returns DigestLengthBytes = 2·(256/8) = 64 bytes: hypothesis `hH` of the theorems -/
theorem gen_digest_len :
    MpsGen.Hash.sumLength = ["DigestLengthBytes = params.SecBytes * 2"] ∧
    MpsGen.Hash.params.take 2 = ["SecParam = 256", "SecBytes = SecParam / 8"] :=
  ⟨rfl, rfl⟩

/-- the context string and the protocol ids of the model are the ones in the source -/
theorem gen_frost_consts :
    MpsGen.Nonce.frostRound1Consts = ["deriveHashKeyContext = \"" ++ deriveHashKeyContext ++ "\""] ∧
    MpsGen.Nonce.frostSignConsts =
      ["protocolID = \"" ++ protocolID ++ "\"", "protocolIDTaproot = \"" ++ protocolIDTaproot ++ "\"",
       "protocolRounds = 3"] := by
  simp only [deriveHashKeyContext, protocolID, protocolIDTaproot, String.reduceAppend]
  exact ⟨rfl, rfl⟩

/-- a signing session hashes: signer set, config threshold, group; no auxiliary items; the
    protocol id is chosen by the variant (`frostSession`) -/
theorem gen_frost_session :
    MpsGen.Nonce.frostSignInfo =
      ["round.Info{ FinalRoundNumber: protocolRounds, SelfID: result.ID, PartyIDs: signers, Threshold: result.Threshold, Group: result.PublicKey.Curve(), }",
       "round.NewSession(info, sessionID, nil)"] ∧
    MpsGen.Nonce.frostSignProtocolID =
      ["if taproot: info.ProtocolID = protocolIDTaproot", "if else: info.ProtocolID = protocolID"] :=
  ⟨rfl, rfl⟩

/-- `sample.ScalarUnit` / `sample.Scalar`: 32 bytes per attempt, reduced mod n, at most 255 attempts -/
theorem gen_sample :
    MpsGen.Nonce.sampleScalar =
      ["make([]byte, group.SafeScalarBytes())", "group.SafeScalarBytes()", "mustReadBits(rand, buffer)",
       "new(saferith.Nat).SetBytes(buffer)", "group.NewScalar().SetNat(n)"] ∧
    MpsGen.Nonce.sampleScalarUnit =
      ["Scalar(rand, group)", "s.IsZero()", "panic(ErrMaxIterations)", "for i := 0; i < maxIterations; i++"] ∧
    MpsGen.Nonce.sampleConsts = ["maxIterations = " ++ toString maxIterations] ∧
    MpsGen.Nonce.safeScalarBytes = ["32"] ∧
    MpsGen.Nonce.setNat =
      ["new(saferith.Nat).Mod(x, secp256k1Order)", "s.value.SetByteSlice(reduced.Bytes())", "reduced.Bytes()"] :=
  ⟨rfl, rfl, rfl, rfl, rfl⟩

/-- `taproot.SecretKey.Sign`: the three tagged hashes and what goes into each, in order -/
theorem gen_taproot_sign_hashes : MpsGen.Sig.taprootSignHashes =
    ["\"BIP0340/aux\"", "a", "\"BIP0340/nonce\"", "t[:]", "PBytes", "m",
     "\"BIP0340/challenge\"", "RBytes", "PBytes", "m"] := rfl

/-- … and the statements around them that `Bip340.signGo` transcribes (reader vs counter, the two
    conditional negations, the nonce from the hash) -/
theorem gen_taproot_sign : MpsGen.Sig.taprootSign =
    [ "d.UnmarshalBinary(sk)", "d.IsZero()", "d.ActOnBase()", "P.XBytes()", "P.HasEvenY()",
      "if !P.HasEvenY(): d.Negate()", "make([]byte, 32)", "k.IsZero()",
      "if rand != nil: io.ReadFull(rand, a)",
      "if else: atomic.AddUint64(&signatureCounter, 1)",
      "if else: binary.BigEndian.PutUint64(a, ctr)",
      "d.MarshalBinary()", "TaggedHash(\"BIP0340/aux\", a)", "TaggedHash(\"BIP0340/nonce\", t[:], PBytes, m)",
      "k.UnmarshalBinary(randHash)", "k.IsZero()", "k.ActOnBase()", "R.HasEvenY()",
      "if !R.HasEvenY(): k.Negate()", "R.XBytes()", "TaggedHash(\"BIP0340/challenge\", RBytes, PBytes, m)",
      "e.UnmarshalBinary(eHash)", "e.Mul(d).Add(k)", "e.Mul(d)", "z.MarshalBinary()",
      "make([]byte, 0, SignatureLen)" ] := rfl

-- the proof does not need `hs`; it keeps the statement where `signGo` mirrors `Sign` (on a shorter stream `Sign`
-- returns the error of io.ReadFull, `signGo` signs)
set_option linter.unusedVariables false in
/-- io.ReadFull over a source that answers every Read call with any positive number of bytes (one byte per call, a
    buffered or network-backed source, ...) returns exactly the first 32 bytes of the stream: what the signer hedges its
    nonce with does not depend on the chunking. (Stated for schedules of at least 32 calls; `Readers.readFull_eq_take`
    asks only that the calls deliver 32 bytes together.) -/
theorem aux_independent_of_read_chunking (stream : Bytes) (chunks : List Nat)
    (hpos : ∀ c ∈ chunks, 0 < c) (hlen : 32 ≤ chunks.length) (hs : 32 ≤ stream.length) :
    Readers.readFull stream 32 chunks = stream.take 32 :=
  Readers.readFull_eq_take chunks stream 32 (Nat.le_trans hlen (Readers.length_le_sum chunks hpos))

/-- … hence the published BIP-340 nonce commitment is the one computed from the first 32 stream bytes. -/
theorem bip340_nonce_independent_of_read_chunking (sk m stream : Bytes) (chunks : List Nat)
    (hpos : ∀ c ∈ chunks, 0 < c) (hlen : 32 ≤ chunks.length) (hs : 32 ≤ stream.length) :
    bip340NonceCommitment sk (.reader (Readers.readFull stream 32 chunks)) m
      = bip340NonceCommitment sk (.reader (stream.take 32)) m := by
  rw [aux_independent_of_read_chunking stream chunks hpos hlen hs]

/-- Why ReadFull and not one Read call: with a source that delivers one byte per call, a single Read (count ignored)
    leaves 31 of the 32 bytes zero — two streams that agree in their first byte only give the same auxiliary value. -/
theorem single_read_loses_randomness :
    ∃ s1 s2 : Bytes, s1.take 32 ≠ s2.take 32 ∧
      Readers.readOnce s1 32 (List.replicate 32 1) = Readers.readOnce s2 32 (List.replicate 32 1) ∧
      Readers.readFull s1 32 (List.replicate 32 1) ≠ Readers.readFull s2 32 (List.replicate 32 1) :=
  ⟨5 :: List.replicate 31 1, 5 :: List.replicate 31 2, by decide, by decide, by decide⟩

def exCtx : FrostCtx :=
  { share := List.replicate 32 1, sid := some (str "s1"), taproot := false,
    signers := [str "a", str "b"], thr := 1, m := str "msg", a := List.replicate 32 0 }

theorem exCtx_wf : CtxWF exCtx := by
  refine ⟨⟨by decide, by decide, by decide⟩, ?_, by decide⟩
  unfold Item.WF; decide

theorem wf_with_m (c : FrostCtx) (m : Bytes) (w : CtxWF c) : CtxWF { c with m := m } :=
  ⟨w.sess, w.items, w.alen⟩

/-- two valid contexts differing only in the message, fed the SAME random bytes -/
example : CtxWF exCtx ∧ CtxWF { exCtx with m := str "msh" } ∧ exCtx ≠ { exCtx with m := str "msh" } :=
  ⟨exCtx_wf, wf_with_m exCtx _ exCtx_wf, fun h => absurd (congrArg FrostCtx.m h : str "msg" = str "msh") (by decide)⟩

/-! An instance of `frost_nonce_input_injective` (the last message byte moved into `a`), and the remaining
  hypotheses met: `hH`, two counter values, a read schedule, two call numbers. -/
example : frostNonceInput (List.replicate 64 7) [1, 2] (List.replicate 32 0)
    ≠ frostNonceInput (List.replicate 64 7) [1] (2 :: List.replicate 31 0) := by decide
example : ∀ x : Bytes, ((fun _ : Bytes => List.replicate 64 (0 : UInt8)) x).length = 64 := by intro x; simp
example : Bip340.auxOf (.counter 1) ≠ Bip340.auxOf (.counter 2) := by decide
example : (∀ c ∈ List.replicate 40 1, 0 < c) ∧ 32 ≤ (List.replicate 40 1).length ∧ 32 ≤ (List.replicate 96 (7 : UInt8)).length := by decide
example : (3 : Nat) < 2 ^ 64 ∧ (4 : Nat) < 2 ^ 64 ∧ (3 : Nat) ≠ 4 := by decide

end Mps.C11
