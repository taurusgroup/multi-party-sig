import MpsProps.Anchors.C19
import MpsProofs.TypedEncode
import MpsGen.Hash
/-
  C19 — Transcript hashing is injective and commitments are binding.
  Property theorems only (lemmas live in MpsProofs). No Mathlib: core and `List.Forall₂` of Batteries.
-/
namespace Mps.C19

/-- Two item sequences fed to the transcript hash give the same byte stream only if they are the
    same sequence: moving bytes between adjacent items or between an item and its domain tag,
    splitting, merging or retyping an item all change the stream. -/
theorem transcript_injective (xs ys : List Item) (hx : ∀ i ∈ xs, i.WF) (hy : ∀ i ∈ ys, i.WF)
    (h : transcript xs = transcript ys) : xs = ys := Mps.transcript_injective xs ys hx hy h

theorem distinct_items_distinct_streams (xs ys : List Item) (hx : ∀ i ∈ xs, i.WF) (hy : ∀ i ∈ ys, i.WF)
    (h : xs ≠ ys) : transcript xs ≠ transcript ys := fun e => h (transcript_injective xs ys hx hy e)

/-- Prefix-freeness: a stream that continues another (by further items) does so by whole items. -/
theorem transcript_prefix_free (xs ys zs : List Item) (hx : ∀ i ∈ xs, i.WF) (hy : ∀ i ∈ ys, i.WF)
    (hz : ∀ i ∈ zs, i.WF) (h : transcript xs ++ frames zs = transcript ys) : ys = xs ++ zs := by
  unfold transcript at h
  rw [List.append_assoc, ← frames_append] at h
  exact (frames_injective _ ys (List.forall_mem_append.2 ⟨hx, hz⟩) hy (List.append_cancel_left h)).symm

/-- Equal digests: equal item sequences, or an explicit collision of the hash function. -/
theorem digest_eq_imp (H : Bytes → Bytes) (xs ys : List Item) (hx : ∀ i ∈ xs, i.WF) (hy : ∀ i ∈ ys, i.WF)
    (h : digestWith H xs = digestWith H ys) :
    xs = ys ∨ (transcript xs ≠ transcript ys ∧ H (transcript xs) = H (transcript ys)) :=
  hash_transcript_inj H xs ys hx hy h

/-- Fixed-domain typed values (byte strings, big integers, identifiers, identifier lists, RIDs,
    thresholds, round numbers, messages, commitments, points, scalars, ciphertexts, moduli,
    Pedersen parameters, ElGamal ciphertexts): if two valid values — of the same OR of different
    Go types — are written as the same (domain, data) item, they are the same value. -/
theorem encode_injective (a b : TVal) (ha : a.WF) (hb : b.WF) (fa : a.fixed = true) (fb : b.fixed = true)
    (i : Item) (ea : encode a = some i) (eb : encode b = some i) : a = b :=
  Mps.encode_injective a b ha hb fa fb i ea eb

/-- a valid typed value is written as an item whose two lengths fit the 8-byte length fields -/
theorem encode_wf (a : TVal) (ha : a.WF) (i : Item) (ea : encode a = some i) : i.WF := Mps.encode_wf a ha i ea

/-- sequences of valid fixed-domain values with the same item sequence are the same sequence -/
theorem encodeList_injective (vs ws : List TVal) (hv : ∀ v ∈ vs, v.WF ∧ v.fixed = true)
    (hw : ∀ v ∈ ws, v.WF ∧ v.fixed = true) (is : List Item)
    (e1 : encodeList vs = some is) (e2 : encodeList ws = some is) : vs = ws :=
  Mps.encodeList_injective vs ws hv hw is e1 e2

/-- `Decommit` accepts only a 64-byte non-zero commitment and a 32-byte non-zero decommitment. -/
theorem decommit_validates (H : Bytes → Bytes) (ctx : List Item) (c d : Bytes) (vals : List TVal)
    (h : decommitWith H ctx c d vals = true) :
    c.length = 64 ∧ allZero c = false ∧ d.length = 32 ∧ allZero d = false := by
  obtain ⟨hc, hd, -⟩ := (decommitWith_iff H ctx c d vals).1 h
  obtain ⟨h1, h2⟩ := (validLen_iff c 64).1 hc
  exact ⟨h1, h2, (validLen_iff d 32).1 hd⟩

/-- Binding: if one commitment opens (in the same hash context) to two value tuples with two
    decommitments, then the tuples were written as the same item sequence and the decommitments
    are equal — or `H` has a collision (`decommitWith_binding` names it: the transcripts of the two openings). -/
theorem commit_binding (H : Bytes → Bytes) (ctx : List Item) (hctx : ∀ i ∈ ctx, i.WF) (c d d' : Bytes)
    (vals vals' : List TVal) (hv : ∀ v ∈ vals, v.WF) (hv' : ∀ v ∈ vals', v.WF)
    (h : decommitWith H ctx c d vals = true) (h' : decommitWith H ctx c d' vals' = true) :
    (encodeList vals = encodeList vals' ∧ d = d') ∨ (∃ x y : Bytes, x ≠ y ∧ H x = H y) := by
  obtain ⟨is, is', e, e', hb⟩ := decommitWith_binding H hctx hv hv' h h'
  exact hb.imp (fun ⟨hi, hd⟩ => ⟨by rw [e, e', hi], hd⟩) fun c => ⟨_, _, c⟩

/-- … hence, for fixed-domain values, the commitment opens only to the exact tuple, in order. -/
theorem commit_binding_values (H : Bytes → Bytes) (ctx : List Item) (hctx : ∀ i ∈ ctx, i.WF) (c d d' : Bytes)
    (vals vals' : List TVal) (hv : ∀ v ∈ vals, v.WF ∧ v.fixed = true) (hv' : ∀ v ∈ vals', v.WF ∧ v.fixed = true)
    (h : decommitWith H ctx c d vals = true) (h' : decommitWith H ctx c d' vals' = true) :
    (vals = vals' ∧ d = d') ∨ (∃ x y : Bytes, x ≠ y ∧ H x = H y) := by
  refine (commit_binding H ctx hctx c d d' vals vals' (fun v h => (hv v h).1) (fun v h => (hv' v h).1) h h').imp_left ?_
  rintro ⟨he, hd⟩
  obtain ⟨-, -, is, e, -⟩ := (decommitWith_iff H ctx c d vals).1 h
  exact ⟨encodeList_injective vals vals' hv hv' is e (he ▸ e), hd⟩

/-- An honest commitment opens with its own decommitment (completeness of `Commit`/`Decommit`). -/
theorem commit_then_decommit (H : Bytes → Bytes) (ctx : List Item) (vals : List TVal) (nonce c d : Bytes)
    (hn : validLen nonce 32 = true) (h : commitWith H ctx vals nonce = some (c, d)) (hc : validLen c 64 = true) :
    decommitWith H ctx c d vals = true := by
  unfold commitWith at h
  cases e : encodeList vals with
  | none => rw [e] at h; cases h
  | some is =>
    rw [e] at h
    cases h
    exact (decommitWith_iff H ctx _ _ vals).2 ⟨hc, hn, is, e, rfl⟩

/-- `WriteAny` frames every item as "(" ‖ be64 |domain| ‖ domain ‖ be64 |data| ‖ data ‖ ")" —
    the layout `frame` models and `transcript_injective` is proved for. -/
theorem gen_framing : MpsGen.Hash.writeAnyFraming =
    [ "hash.h.WriteString(\"(\")",
      "binary.BigEndian.PutUint64(sizeBuf[:], uint64(len(toBeWritten.TheDomain)))",
      "hash.h.Write(sizeBuf[:])",
      "hash.h.WriteString(toBeWritten.TheDomain)",
      "binary.BigEndian.PutUint64(sizeBuf[:], uint64(len(toBeWritten.Bytes)))",
      "hash.h.Write(sizeBuf[:])",
      "hash.h.Write(toBeWritten.Bytes)",
      "hash.h.WriteString(\")\")" ] := rfl

theorem gen_prefix : MpsGen.Hash.newPrefix = ["hash.h.WriteString(\"CMP-BLAKE\")"] := rfl

theorem gen_cases : MpsGen.Hash.writeAnyCases =
    ["[]byte", "*big.Int", "WriterToWithDomain", "encoding.BinaryMarshaler", "default"] := rfl

theorem gen_case_domains : MpsGen.Hash.writeAnyDomains =
    [ "BytesWithDomain{\"[]byte\", t}", "BytesWithDomain{\"big.Int\", bytes}",
      "BytesWithDomain{t.Domain(), buf.Bytes()}",
      "BytesWithDomain{ TheDomain: name.String(), Bytes: bytes, }" ] := rfl

/-- every `Domain()` method of the repository, with the literal it returns: the table `encode`
    was written against. A new, renamed or colliding domain breaks this obligation. -/
theorem gen_domains : MpsGen.Hash.domains =
    [ "internal/elgamal|Ciphertext|ElGamal Ciphertext",
      "internal/round|Number|Round Number",
      "internal/types|RID|RID",
      "internal/types|SigningMessage|Empty Message|Signature Message",
      "internal/types|ThresholdWrapper|Threshold",
      "pkg/hash|BytesWithDomain|b.TheDomain",
      "pkg/hash|Commitment|Commitment",
      "pkg/hash|Decommitment|Decommitment",
      "pkg/math/polynomial|Exponent|Exponent",
      "pkg/paillier|Ciphertext|Paillier Ciphertext",
      "pkg/paillier|PublicKey|Paillier PublicKey",
      "pkg/party|IDSlice|IDSlice",
      "pkg/party|ID|ID",
      "pkg/pedersen|Parameters|Pedersen Parameters",
      "pkg/zk/sch|Commitment|Schnorr Commitment",
      "protocols/cmp/config|Config|CMP Config",
      "protocols/cmp/config|Public|Public Data",
      "protocols/frost/sign|messageHash|messageHash" ] := rfl

/-- the literals of that table and the four tags `WriteAny` makes itself, copied by hand, are pairwise different
    (no two Go types share a domain tag) -/
theorem gen_domain_literals_nodup :
    (["ElGamal Ciphertext", "Round Number", "RID", "Empty Message", "Signature Message", "Threshold",
      "Commitment", "Decommitment", "Exponent", "Paillier Ciphertext", "Paillier PublicKey", "IDSlice", "ID",
      "Pedersen Parameters", "Schnorr Commitment", "CMP Config", "Public Data", "messageHash",
      "[]byte", "big.Int", "*curve.Secp256k1Point", "*curve.Secp256k1Scalar"] : List String).Nodup := by decide

theorem gen_commit : MpsGen.Hash.commitWrites =
    ["rand.Read(decommitment)", "hash.Clone()", "h.WriteAny(item)", "h.WriteAny(decommitment)", "h.Sum()"] := rfl

theorem gen_decommit : MpsGen.Hash.decommitWrites =
    ["c.Validate()", "d.Validate()", "hash.Clone()", "h.WriteAny(item)", "h.WriteAny(d)", "h.Sum()",
     "bytes.Equal(computedCommitment, c)"] := rfl

theorem gen_validate :
    MpsGen.Hash.commitmentValidate =
      ["l := len(c); l != DigestLengthBytes => fmt.Errorf(\"commitment: incorrect length (got %d, expected %d)\", l, DigestLengthBytes)",
       "b != 0 => nil"] ∧
    MpsGen.Hash.decommitmentValidate =
      ["l := len(d); l != params.SecBytes => fmt.Errorf(\"decommitment: incorrect length (got %d, expected %d)\", l, params.SecBytes)",
       "b != 0 => nil"] ∧
    MpsGen.Hash.sumLength = ["DigestLengthBytes = params.SecBytes * 2"] :=
  ⟨rfl, rfl, rfl⟩

/-- the per-type `WriteTo` bodies `encode` transcribes -/
theorem gen_writers :
    MpsGen.Hash.idWrite = ["id == \"\" => 0, io.ErrUnexpectedEOF", "w.Write([]byte(id))"] ∧
    MpsGen.Hash.idSliceWrite =
      ["partyIDs == nil => 0, io.ErrUnexpectedEOF", "err != nil => 0, err", "err != nil => nAll, err",
       "err != nil => nAll, err",
       "binary.Write(w, binary.BigEndian, uint64(len(partyIDs)))",
       "binary.Write(w, binary.BigEndian, uint64(len(id)))", "w.Write([]byte(id))"] ∧
    MpsGen.Hash.ridWrite = ["rid == nil => 0, io.ErrUnexpectedEOF", "w.Write(rid[:])"] ∧
    MpsGen.Hash.thresholdWrite =
      ["make([]byte, 4)", "binary.BigEndian.PutUint32(intBuffer, uint32(t))", "w.Write(intBuffer)"] ∧
    MpsGen.Hash.roundNumberWrite = ["binary.Write(w, binary.BigEndian, uint64(i))"] ∧
    MpsGen.Hash.signingMessageWrite = ["w.Write(t)", "t == nil => \"Empty Message\""] ∧
    MpsGen.Hash.ciphertextWrite = ["make([]byte, params.BytesCiphertext)", "ct.c.FillBytes(buf)", "w.Write(buf)"] ∧
    MpsGen.Hash.publicKeyWrite = ["pk.n.Bytes()", "w.Write(buf)"] ∧
    MpsGen.Hash.pedersenWrite = ["make([]byte, params.BytesIntModN)", "i.FillBytes(buf)", "w.Write(buf)"] :=
  ⟨rfl, rfl, rfl, rfl, rfl, rfl, rfl, rfl, rfl⟩

/-! Non-vacuity: concrete instances meeting the hypotheses. -/

example : (⟨str "ID", str "alice"⟩ : Item).WF := by constructor <;> decide
example : (TVal.ids [str "ab", str "c"]).WF ∧ (TVal.ids [str "ab", str "c"]).fixed = true := by
  refine ⟨⟨by decide, ?_, by decide⟩, rfl⟩
  intro i hi; simp at hi; rcases hi with rfl | rfl <;> decide
/-- the pair on which `idsDataOld` collides gets different data -/
example : idsData [str "ab", str "c"] ≠ idsData [str "a", str "bc"] := by decide
example : idsDataOld [str "ab", str "c"] = idsDataOld [str "a", str "bc"] := idsDataOld_collision.1
example : transcript [⟨str "ab", str "c"⟩] ≠ transcript [⟨str "a", str "bc"⟩] := by decide

end Mps.C19
