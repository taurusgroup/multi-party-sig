import MpsProps.Anchors.C08
import Mps.Judge
import MpsProps.Src.SrcCmpKeygen
import MpsProps.Src.SrcFrostKeygen
import MpsProps.Src.SrcDoernerKeygen
import MpsProps.C08alg
import MpsProps.AlgGen
/-
  C08 — one import for the property: anchors and source tables, and the theorems, which are in
  MpsProps/C08alg.lean (algebra layer).
-/
