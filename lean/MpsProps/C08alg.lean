import MpsProps.C02alg
/-
  C08 (algebra layer) — refresh preserves the key, retires old shares, across ANY history.
-/
namespace Mps.C08alg
open Mps.Alg Polynomial

variable {F G : Type} [Field F] [AddCommGroup G] [Module F G] (g : G) {ι : Type} [DecidableEq ι]

/-- zero-constant refresh polynomials of degree ≤ t; EVERY reconstruction
    list S of ≥ t+1 parties interpolates the refreshed shares to the same secret. -/
theorem refresh_preserves_key (t : ℕ) (op : RefreshOp ι F) (hv : op.Valid t)
    (S : List ι) (x : ι → F) (hN : Nodes S x) (hS : t + 1 ≤ S.length) (sh : ι → F) :
    reconstruct (lawful g : Ops F G) S x (applyRefresh g x sh op) = reconstruct (lawful g : Ops F G) S x sh := by
  unfold applyRefresh
  rw [C02alg.reconstruct_any_subset g op.dealers op.cs t (fun j hj => (hv j hj).2) S x hN hS sh,
    List.sum_eq_zero (List.forall_mem_map.mpr fun j hj => (hv j hj).1), add_zero]

/-- the public side: the refreshed table entries (any exponent polynomials of degree ≤ t with identity constant)
    interpolate to the same group key, and frost's `publicKey += Σ Φⱼ.Constant()` leaves the key as is -/
theorem refresh_preserves_group_key (t : ℕ) (dealers : List ι) (Es : ι → Exponent G)
    (hdeg : ∀ j ∈ dealers, expDegree (Es j) ≤ (t : Int))
    (hconst : ∀ j ∈ dealers, expConstant (lawful g : Ops F G) (Es j) = 0)
    (S : List ι) (x : ι → F) (hN : Nodes S x) (hS : t + 1 ≤ S.length) (pub : ι → G) (Y : G) :
    reconstructG (lawful g : Ops F G) S x
        (fun i => pub i + (dealers.map fun j => evalExp (lawful g : Ops F G) (Es j) (x i)).sum) =
      reconstructG (lawful g : Ops F G) S x pub ∧
    frostGroupKey (lawful g : Ops F G) Y (dealers.map Es) = Y := by
  have h0 : (dealers.map fun j => expConstant (lawful g : Ops F G) (Es j)).sum = 0 :=
    List.sum_eq_zero (List.forall_mem_map.mpr hconst)
  exact ⟨by rw [C02alg.reconstruct_any_subset_public g dealers Es t hdeg S x hN hS pub, h0, add_zero],
    by rw [frostGroupKey_lawful, List.map_map]; exact (congrArg (Y + ·) h0).trans (add_zero Y)⟩

/-- cmp's group key `Config.PublicPoint` (Lagrange over ALL parties) is unchanged by a refresh -/
theorem refresh_preserves_cmp_public_point (t : ℕ) (dealers : List ι) (Es : ι → Exponent G)
    (hdeg : ∀ j ∈ dealers, expDegree (Es j) ≤ (t : Int))
    (hconst : ∀ j ∈ dealers, expConstant (lawful g : Ops F G) (Es j) = 0)
    (ids : List ι) (x : ι → F) (hN : Nodes ids x) (hn : t + 1 ≤ ids.length) (pub : ι → G) :
    cmpPublicPoint (lawful g : Ops F G) ids x
        (fun i => pub i + (dealers.map fun j => evalExp (lawful g : Ops F G) (Es j) (x i)).sum) =
      cmpPublicPoint (lawful g : Ops F G) ids x pub := by
  rw [cmpPublicPoint_eq, cmpPublicPoint_eq]
  exact (refresh_preserves_group_key g t dealers Es hdeg hconst ids x hN hn pub 0).1

/-- induction over ANY list of refresh operations (each with its own
    dealer list and polynomials). -/
theorem refreshes_preserve_key (t : ℕ) (ops : List (RefreshOp ι F)) (hv : ∀ op ∈ ops, op.Valid t)
    (S : List ι) (x : ι → F) (hN : Nodes S x) (hS : t + 1 ≤ S.length) (sh : ι → F) :
    reconstruct (lawful g : Ops F G) S x (ops.foldl (applyRefresh g x) sh) = reconstruct (lawful g : Ops F G) S x sh := by
  induction ops generalizing sh with
  | nil => rfl
  | cons op ops ih =>
    rw [List.foldl_cons, ih (fun o ho => hv o (by simp [ho])),
      refresh_preserves_key g t op (hv op (by simp)) S x hN hS sh]

/-- … and the public table stays the image of the shares through the whole history (honest dealing),
    so the key pair (sk, sk·g) reconstructed from any S is the original one. -/
theorem refreshes_consistent [DecidableEq F] (m : ℕ) (ops : List (RefreshOp ι F))
    (hv : ∀ op ∈ ops, op.dealers ≠ [] ∧ ∀ j ∈ op.dealers, (op.cs j).headD 0 = 0 ∧ (op.cs j).length = m + 1)
    (x : ι → F) (sh : ι → F) (i : ι) :
    ops.foldl (fun (pub : Option G) op => pub.bind fun P => dealtPublic (lawful g : Ops F G) op.dealers op.cs x P i)
        (some (sh i • g)) =
      some ((ops.foldl (applyRefresh g x) sh) i • g) := by
  induction ops generalizing sh with
  | nil => rfl
  | cons op ops ih =>
    have h := hv op (by simp)
    rw [List.foldl_cons, List.foldl_cons, Option.bind_some,
      C02alg.keygen_consistent_honest g op.dealers h.1 op.cs m true (fun j hj => (h.2 j hj).2)
        (fun j hj => by have := (h.2 j hj).1; simp only [this]) x i (sh i)]
    exact ih (fun o ho => hv o (by simp [ho])) (applyRefresh g x sh op)

theorem refresh_mixed_eq (A B : List ι) (x : ι → F) (hN : Nodes (A ++ B) x) (old new : ι → F) :
    reconstruct (lawful g : Ops F G) (A ++ B) x (fun i => if i ∈ B then new i else old i) =
      reconstruct (lawful g : Ops F G) (A ++ B) x old +
        sumF (lawful g : Ops F G) (B.map fun i =>
          (lawful g : Ops F G).mul (lagrangeCoeff (lawful g : Ops F G) (A ++ B) x i) (new i - old i)) := by
  have hdisj : ∀ j ∈ A, j ∉ B := fun j hA hB => (List.nodup_append.mp hN.nodup).2.2 j hA j hB rfl
  have : (fun i => if i ∈ B then new i else old i) = fun i => old i + if i ∈ B then new i - old i else 0 := by
    funext i; split <;> ring
  rw [this, reconstruct_add]
  congr 1
  -- the patch vanishes on A, so only the B part of the sum over A ++ B is left
  simp only [reconstruct, alg, List.map_append, List.sum_append]
  rw [List.map_congr_left (l := A) fun j hj => by rw [if_neg (hdisj j hj), mul_zero],
    List.map_congr_left (l := B) fun j hj => by rw [if_pos hj]]
  simp

/-- a reconstruction list mixing epochs — `A` parties bring OLD shares, `B`
    parties NEW ones — yields (interpolation of the old shares) + Σ_{i∈B} λᵢ·(newᵢ − oldᵢ); hence, if the
    old shares interpolate to sk, the mixture gives sk IFF that weighted sum of the refresh values vanishes. -/
theorem refresh_mixed_iff (A B : List ι) (x : ι → F) (hN : Nodes (A ++ B) x) (old new : ι → F) (sk : F)
    (hold : reconstruct (lawful g : Ops F G) (A ++ B) x old = sk) :
    reconstruct (lawful g : Ops F G) (A ++ B) x (fun i => if i ∈ B then new i else old i) = sk ↔
      sumF (lawful g : Ops F G) (B.map fun i =>
          (lawful g : Ops F G).mul (lagrangeCoeff (lawful g : Ops F G) (A ++ B) x i) (new i - old i)) = 0 := by
  rw [refresh_mixed_eq g A B x hN old new, hold]
  exact add_eq_left

/-- Exact hypothesis: `B` (the parties bringing new shares) is non-empty
    and has at most t members — automatically true when the mixed set has exactly t+1 members and at
    least one of them brings an old share (`refresh_mixed_fails_exists'`). Then there IS a polynomial
    with zero constant and t+1 coefficients (the top ones zero when |B| < t) for which the weighted sum
    Σ_{i∈B} λᵢ·r(xᵢ) is non-zero: explicit witness r = X·∏_{i∈B'}(X − xᵢ) for B = b :: B'. -/
theorem refresh_mixed_fails_exists (t : ℕ) (A B : List ι) (x : ι → F) (hN : Nodes (A ++ B) x)
    (hB : B ≠ []) (hBt : B.length ≤ t) :
    ∃ cs : List F, cs.length = t + 1 ∧ cs.headD 0 = 0 ∧
      sumF (lawful g : Ops F G) (B.map fun i =>
          (lawful g : Ops F G).mul (lagrangeCoeff (lawful g : Ops F G) (A ++ B) x i)
            (evalPoly (lawful g : Ops F G) cs (x i))) ≠ 0 := by
  obtain ⟨b, B', rfl⟩ := List.exists_cons_of_ne_nil hB
  have hbS : b ∈ A ++ b :: B' := by simp
  have hbB' : ∀ k ∈ B', x b - x k ≠ 0 := fun k hk e => by
    have := hN.inj b hbS k (by simp [hk]) (sub_eq_zero.mp e)
    exact (List.nodup_cons.mp (List.nodup_append.mp hN.nodup).2.1).1 (this ▸ hk)
  let r : F[X] := (X :: B'.map fun k => X - C (x k)).prod
  have hr : ∀ y, r.eval y = y * (B'.map fun k => y - x k).prod := fun y => by
    simp [r, eval_list_prod, Function.comp_def]
  have hdeg : r.natDegree ≤ t := by
    refine (natDegree_list_prod_le _).trans ?_
    simp only [List.length_cons] at hBt
    simp [Function.comp_def]
    omega
  obtain ⟨cs, hlen, hhead, hval⟩ := exists_coeffList_of_natDegree_le g r t hdeg
  refine ⟨cs, hlen, by rw [hhead, hr, zero_mul], ?_⟩
  simp only [alg, hval, hr, List.map_cons, List.sum_cons]
  -- the other members of B are roots of r
  rw [List.sum_eq_zero fun y hy => by
    obtain ⟨i, hi, rfl⟩ := List.mem_map.mp hy
    rw [List.prod_eq_zero (List.mem_map.mpr ⟨i, hi, sub_self _⟩), mul_zero, mul_zero], add_zero]
  rw [lagrangeCoeff_lawful g _ hN.nodup x b hbS]
  refine mul_ne_zero (lagCoeff_ne_zero _ x hN.injOn hN.nz_toFinset b (List.mem_toFinset.mpr hbS))
    (mul_ne_zero (hN.nz b hbS) (List.prod_ne_zero fun h0 => ?_))
  obtain ⟨k, hk, e⟩ := List.mem_map.mp h0
  exact hbB' k hk e

/-- the usual situation: exactly t+1 parties, at least one with an old and one with a new share -/
theorem refresh_mixed_fails_exists' (t : ℕ) (A B : List ι) (x : ι → F) (hN : Nodes (A ++ B) x)
    (hA : A ≠ []) (hB : B ≠ []) (hcard : (A ++ B).length = t + 1) (old : ι → F) (sk : F)
    (hold : reconstruct (lawful g : Ops F G) (A ++ B) x old = sk) :
    ∃ op : RefreshOp ι F, op.Valid t ∧
      reconstruct (lawful g : Ops F G) (A ++ B) x
        (fun i => if i ∈ B then applyRefresh g x old op i else old i) ≠ sk := by
  have hAl : 0 < A.length := List.length_pos_iff.mpr hA
  have hBt : B.length ≤ t := by rw [List.length_append] at hcard; omega
  obtain ⟨cs, h1, h2, h3⟩ := refresh_mixed_fails_exists g t A B x hN hB hBt
  obtain ⟨b, hb⟩ := List.exists_mem_of_ne_nil B hB
  refine ⟨⟨[b], fun _ => cs⟩, ?_, ?_⟩
  · intro j _; exact ⟨h2, le_of_eq h1⟩
  · intro h
    rw [refresh_mixed_iff g A B x hN old _ sk hold] at h
    apply h3
    rw [← h]
    congr 1
    refine List.map_congr_left fun i _ => ?_
    rw [applyRefresh_eq]
    simp [refreshDelta]

set_option linter.unusedSectionVars false in -- the `[DecidableEq ι]` of the `variable` line is not needed here
/-- party i's share changes iff the total refresh polynomial does not vanish at xᵢ -/
theorem share_changes_iff (x : ι → F) (sh : ι → F) (op : RefreshOp ι F) (i : ι) :
    applyRefresh g x sh op i ≠ sh i ↔ refreshDelta g x op i ≠ 0 := by
  rw [applyRefresh_eq]; simp

/-- Doerner refresh: the two new additive shares have the old sum (any refresh scalars, any history). -/
theorem doerner_refresh_preserves_sum (a b ra rb : F) :
    doernerNewShare (lawful g : Ops F G) a ra rb + doernerNewShare (lawful g : Ops F G) b rb ra = a + b := by
  simp only [alg]; ring

theorem doerner_refreshes_preserve_sum (rs : List (F × F)) (a b : F) :
    let st := rs.foldl (fun (st : F × F) r =>
      (doernerNewShare (lawful g : Ops F G) st.1 r.1 r.2, doernerNewShare (lawful g : Ops F G) st.2 r.2 r.1)) (a, b)
    st.1 + st.2 = a + b := by
  induction rs generalizing a b with
  | nil => rfl
  | cons r rs ih =>
    simp only [List.foldl_cons]
    rw [ih, doerner_refresh_preserves_sum]

/-! ### non-vacuity -/
example : (⟨[0], fun _ => [0, 5]⟩ : RefreshOp ℕ ℚ).Valid 1 := by
  intro j _; simp

/-- hypotheses of `refresh_mixed_fails_exists'` (t = 1): A = [0] brings an old share, B = [1] a new one -/
example : Nodes (F := ℚ) ([0] ++ [1]) (fun i : ℕ => (i : ℚ) + 1) ∧ ([0] : List ℕ) ≠ [] ∧ ([1] : List ℕ) ≠ [] ∧
    (([0] : List ℕ) ++ [1]).length = 1 + 1 :=
  ⟨Nodes.natCast_add_one (by decide), by decide, by decide, rfl⟩

end Mps.C08alg
