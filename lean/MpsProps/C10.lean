import MpsProps.Anchors.C10
import MpsProofs.ZKSigma
import MpsProofs.ZKModel
import MpsGen.ZK
/-
  C10 — ZK proofs are complete on their domain and bound to statement and context.
  Property theorems only (lemmas: MpsProofs/ZKSigma.lean — algebra, Mathlib; MpsProofs/ZKModel.lean — the
  executable model).

  What is a theorem here, and what is not:
  * completeness of the verification EQUATIONS of all 15 proof systems, for every witness / mask / challenge
    (corollaries of `sigma_complete`, except zkmod, zkprm and the scalar equation of zkdec, which have their own
    few lines of algebra); completeness of the RANGE part only outside the stated tail event
    (`honest_response_bound`); what the range predicates compute (`range_check_iff`: strict `|z| < 2^bound`);
  * every verifier with a range check accepts only in-range (non-nil) responses (`out_of_range_rejected`);
  * over tables regenerated from the source: every `Public` and `Commitment` field and every non-struct
    parameter of every `challenge()` is written into the hash (`challenge_covers_all_fields`), the selector
    lists are the ones the executable verifiers use (`gen_selectors`), the range-checked responses are the
    ones of the paper (`range_checks_match_paper`), one first-flow value is NOT hashed (`gen_first_flow_unhashed`);
  * the hash input of a challenge determines (context, statement, commitment) — or is an explicit collision
    (`challenge_input_injective`, `selected_fields_equal`; composed in `challenge_binds_statement` for the 12 systems
    whose `challenge()` writes `public.F` / `commitment.F` only, i.e. all but zksch, zkmod, zkprm). These are
    statements about the value lists `writeAll` accepts and an abstract `H`; no theorem ties them to the `challenge` /
    `verify` functions of the executable model, which the correspondence run compares with the Go code;
  * for fixed (statement, commitment, challenge) accepted responses are unique modulo the kernel of the
    homomorphism (`response_unique_mod_kernel`).
  NOT claimed: the random-oracle step "a changed challenge makes the old response fail except with negligible
  probability"; soundness; zero knowledge.
-/
namespace Mps.C10
open Mps.ZK

/-- Generic Σ-protocol completeness: for any homomorphism `φ` between commutative groups, the response
    `α + e • w` to challenge `e` satisfies `φ z = φ α + e • φ w` — for every mask, witness and challenge. -/
theorem sigma_complete {W G : Type*} [AddCommGroup W] [AddCommGroup G] (φ : W →+ G) (α w : W) (e : ℤ) :
    φ (α + e • w) = φ α + e • φ w := Mps.ZK.sigma_complete φ α w e

/-- multiplicative twin (Paillier / Pedersen side) -/
theorem sigma_complete_mul {W G : Type*} [CommGroup W] [CommGroup G] (φ : W →* G) (α w : W) (e : ℤ) :
    φ (α * w ^ e) = φ α * φ w ^ e := Mps.ZK.sigma_complete_mul φ α w e

alias sch_complete := Mps.ZK.sch_complete
alias log_complete := Mps.ZK.log_complete
alias elog_complete := Mps.ZK.elog_complete
alias pedersen_complete := Mps.ZK.pedersen_complete
alias paillier_enc_complete := Mps.ZK.paillier_enc_complete
alias enc_complete := Mps.ZK.enc_complete
alias logstar_complete := Mps.ZK.logstar_complete
alias affg_complete := Mps.ZK.affg_complete
alias affp_complete := Mps.ZK.affp_complete
alias encelg_complete := Mps.ZK.encelg_complete
alias mul_complete := Mps.ZK.mul_complete
alias mulstar_complete := Mps.ZK.mulstar_complete
alias dec_complete := Mps.ZK.dec_complete
alias nth_complete := Mps.ZK.nth_complete
alias prm_complete := Mps.ZK.prm_complete_code
alias fac_complete := Mps.ZK.fac_complete
alias mod_complete := Mps.ZK.mod_complete
/-- scalars reduced mod the group order act like the unreduced integers -/
alias zsmul_emod_order := Mps.ZK.zsmul_emod_order
/-- the nonce response is reduced mod N but used as an N-th power mod N²: the reduction is harmless -/
alias nonce_response_reduced := Mps.ZK.nonce_response_reduced
alias nonce_inverse_pow_N := Mps.ZK.nonce_inverse_pow_N

/-- What `arith.IsInIntervalLEps / LPrimeEps / LEpsPlus1RootN` compute: `TrueLen(|z|) ≤ bound`, i.e. the STRICT
    `|z| < 2^bound` with bound = 768 / 1792 / 1793 (the Go comments promise the closed interval `[-2^bound, 2^bound]`;
    `±2^bound` itself is refused); a nil pointer is refused. -/
theorem range_check_iff (z : Int) :
    (isInIntervalLEps (some z) = true ↔ z.natAbs < 2 ^ 768) ∧
    (isInIntervalLPrimeEps (some z) = true ↔ z.natAbs < 2 ^ 1792) ∧
    (isInIntervalLEpsPlus1RootN (some z) = true ↔ z.natAbs < 2 ^ 1793) ∧
    isInIntervalLEps none = false ∧ isInIntervalLPrimeEps none = false ∧ isInIntervalLEpsPlus1RootN none = false :=
  ⟨inBits_iff 768 z, inBits_iff 1792 z, inBits_iff 1793 z, rfl, rfl, rfl⟩

/-- Completeness of the range part: with `|x| ≤ 2^L`, `|e| < 2^256` the honest response `α + e·x` passes the
    strict check `< 2^(L+E)` whenever the mask is not within `2^256·2^L` of the edge of its range. The residual
    event (mask drawn from ±2^(L+E) by `sampleNeg`) has probability ≤ 2^(256+L) / 2^(L+E) = 2^-256 for E = 512:
    stated here, not hidden. -/
theorem honest_response_bound (α e x : ℤ) (L E : ℕ) (hx : |x| ≤ 2 ^ L) (he : |e| < 2 ^ 256)
    (hα : |α| ≤ 2 ^ (L + E) - 2 ^ 256 * 2 ^ L) : |α + e * x| < 2 ^ (L + E) :=
  Mps.ZK.honest_response_bound α e x L E hx he hα

alias honest_response_bound_LEps := Mps.ZK.honest_response_bound_LEps
alias honest_response_bound_LPrimeEps := Mps.ZK.honest_response_bound_LPrimeEps
alias honest_response_triangle := Mps.ZK.honest_response_triangle

/-- accepted ⇒ in range, for every verifier that has a range check (zkdec / zkmul have none in the paper either; their response is reduced: `plaintext_reduced`) -/
theorem out_of_range_rejected (pre : List Item) (pub prf : Rec) :
    (Enc.verify pre pub prf = .ok true → isInIntervalLEps (prf.intV "Z1") = true) ∧
    (Logstar.verify pre pub prf = .ok true → isInIntervalLEps (prf.intV "Z1") = true) ∧
    (Affg.verify pre pub prf = .ok true →
      isInIntervalLEps (prf.intV "Z1") = true ∧ isInIntervalLPrimeEps (prf.intV "Z2") = true) ∧
    (Affp.verify pre pub prf = .ok true →
      isInIntervalLEps (prf.intV "Z1") = true ∧ isInIntervalLPrimeEps (prf.intV "Z2") = true) ∧
    (Encelg.verify pre pub prf = .ok true → isInIntervalLEps (prf.intV "Z1") = true) ∧
    (Mulstar.verify pre pub prf = .ok true → isInIntervalLEps (prf.intV "Z1") = true) ∧
    (Fac.verify pre pub prf = .ok true →
      isInIntervalLEpsPlus1RootN (prf.intV "Z1") = true ∧ isInIntervalLEpsPlus1RootN (prf.intV "Z2") = true) := by
  -- acceptance gives the guards in program order (`accept_guard`, `accept_bind`); the range checks are among them.
  -- Each pattern below has one slot per step of that verifier up to its range check: `-` for an `if … return false`
  -- (and for the `= .ok _` of a step that may panic), a name for the value such a step binds
  refine ⟨fun h => ?_, fun h => ?_, fun h => ?_, fun h => ?_, fun h => ?_, fun h => ?_, fun h => ?_⟩ <;>
    simp only [Enc.verify, Logstar.verify, Affg.verify, Affp.verify, Encelg.verify, Mulstar.verify, Fac.verify,
      accept_guard, accept_bind, Bool.not_eq_false'] at h
  · exact h.2.2.2.1
  · obtain ⟨-, -, Y, -, -, -, h, -⟩ := h
    exact h
  · obtain ⟨-, -, -, -, -, Bx, -, -, h1, h2, -⟩ := h
    exact ⟨h1, h2⟩
  · obtain ⟨-, -, -, -, -, h1, h2, -⟩ := h
    exact ⟨h1, h2⟩
  · obtain ⟨-, -, w, -, -, Y, -, -, Z, -, -, -, h, -⟩ := h
    exact h
  · obtain ⟨-, -, -, Bx, -, -, h, -⟩ := h
    exact h
  · -- zkfac checks its ranges last, as the value it returns
    obtain ⟨-, _ | e, -, h⟩ := h
    · cases h
    · simp only [accept_guard, accept_bind, accept_pure, Bool.and_eq_true, Bool.not_eq_false'] at h
      obtain ⟨-, -, sigma, -, Q, -, z1, -, v, -, T, -, -, h⟩ := h
      exact h

/-- zkdec / zkmul take their response into the plaintext space ±⌊N/2⌋ before it is encrypted (`SetModSymmetric`,
    `gen_dec`, `gen_mul`): for every response and every modulus the encryption cannot panic, and the reduced value is
    congruent to the response mod N (so the ciphertext, which depends on the plaintext mod N only, is the honest one) -/
theorem plaintext_reduced (n : Nat) (z : Int) (nonce : Nat) (hn : 0 < n) :
    (∃ c, encWithNonce n (symMod z n) nonce = .ok c) ∧ (symMod z n - z) % (n : Int) = 0 :=
  ⟨(encWithNonce_ok_iff n _ nonce).mpr (symMod_natAbs_le z n hn), symMod_congr z n hn⟩

/-- why the reduction is needed: `EncWithNonce` panics beyond `⌊N/2⌋` -/
theorem unchecked_response_panics (n : Nat) (m : Int) (nonce : Nat) (h : n / 2 < m.natAbs) :
    ∃ w, encWithNonce n m nonce = .error w :=
  ⟨_, if_pos h⟩

/-- For fixed statement `X`, commitment `A` and challenge `e`, two accepted responses differ by an element of
    the kernel of the homomorphism: a response transplanted from another proof is accepted only if it
    coincides modulo the kernel. -/
theorem response_unique_mod_kernel {W G : Type*} [AddCommGroup W] [AddCommGroup G] (φ : W →+ G)
    (A X : G) (e : ℤ) (z z' : W) (h : φ z = A + e • X) (h' : φ z' = A + e • X) :
    z - z' ∈ φ.ker ∧ φ (z - z') = 0 := Mps.ZK.response_unique_mod_kernel φ A X e z z' h h'

alias response_accepted_of_kernel := Mps.ZK.response_accepted_of_kernel
alias response_unique_mod_kernel_mul := Mps.ZK.response_unique_mod_kernel_mul
alias response_unique_of_injective := Mps.ZK.response_unique_of_injective

/-- The hash input of a `challenge()` writing `k` values on top of the caller's state determines the context
    items and the `k` values (statement and commitment) — or the two inputs are an explicit collision of `H`.
    Values: every Go type the 15 `challenge()` functions write (`HV`), on its validity domain. -/
theorem challenge_input_injective (H : Bytes → Bytes) (pre pre' : List Item) (vs vs' : List HV)
    (is is' : List Item) (hpre : ∀ i ∈ pre, i.WF) (hpre' : ∀ i ∈ pre', i.WF)
    (hv : ∀ v ∈ vs, v.WF) (hv' : ∀ v ∈ vs', v.WF) (hlen : vs.length = vs'.length)
    (e : encodeHVs vs = some is) (e' : encodeHVs vs' = some is')
    (h : H (transcript (pre ++ is)) = H (transcript (pre' ++ is'))) :
    (pre = pre' ∧ vs = vs') ∨
    (transcript (pre ++ is) ≠ transcript (pre' ++ is') ∧ H (transcript (pre ++ is)) = H (transcript (pre' ++ is'))) :=
  Mps.ZK.challenge_input_injective H pre pre' vs vs' is is' hpre hpre' hv hv' hlen e e' h

/-- … and equal hashed value lists mean that every selected `Public` / `Commitment` field is equal. -/
theorem selected_fields_equal (sel : List Sel) (pub prf pub' prf' : Rec) (param param' : String → List Val)
    (hs : structOnly sel = true) (h : selectVals sel pub prf param = selectVals sel pub' prf' param') :
    ∀ s ∈ sel, pick pub prf s = pick pub' prf' s := by
  rw [selectVals_eq_map sel pub prf param hs, selectVals_eq_map sel pub' prf' param' hs] at h
  exact List.map_inj_left.mp h

alias hv_encode_injective := Mps.ZK.hv_encode_injective

/-- Binding of a verification to (context, statement, commitment), composed: two successful challenge
    computations with a selector list of `public.F` / `commitment.F` selectors only (`structOnly`: the lists of all
    proof systems but zksch, zkmod and zkprm, which hand values to `challenge()` as bare parameters) whose hash inputs
    have equal digests have the same context and write every selected `Public` / `Commitment` field as the same
    value — or exhibit a collision. With `gen_selectors` + `challenge_covers_all_fields` the selected fields are ALL
    statement and commitment fields of the real `challenge()`; with `toHV_injective` equal written values are equal
    field values (a value `writeAll` accepts is `Val.hashed`). -/
theorem challenge_binds_statement (H : Bytes → Bytes) (sel : List Sel) (hs : structOnly sel = true)
    (pre pre' : List Item) (pub prf pub' prf' : Rec) (param param' : String → List Val) (is is' : List Item)
    (hpre : ∀ i ∈ pre, i.WF) (hpre' : ∀ i ∈ pre', i.WF)
    (hv : ∀ v ∈ (selectVals sel pub prf param).map Val.toHV, v.WF)
    (hv' : ∀ v ∈ (selectVals sel pub' prf' param').map Val.toHV, v.WF)
    (e : writeAll ((selectVals sel pub prf param).map Val.toHV) = .ok (some is))
    (e' : writeAll ((selectVals sel pub' prf' param').map Val.toHV) = .ok (some is'))
    (h : H (transcript (pre ++ is)) = H (transcript (pre' ++ is'))) :
    (pre = pre' ∧ ∀ s ∈ sel, (pick pub prf s).toHV = (pick pub' prf' s).toHV) ∨
    (transcript (pre ++ is) ≠ transcript (pre' ++ is') ∧ H (transcript (pre ++ is)) = H (transcript (pre' ++ is'))) := by
  rw [selectVals_eq_map sel pub prf param hs, List.map_map] at hv e
  rw [selectVals_eq_map sel pub' prf' param' hs, List.map_map] at hv' e'
  refine (Mps.ZK.challenge_input_injective H pre pre' _ _ is is' hpre hpre' hv hv' (by simp)
    (encodeHVs_of_writeAll _ _ e) (encodeHVs_of_writeAll _ _ e') h).imp_left fun ⟨h1, h2⟩ => ⟨h1, ?_⟩
  exact List.map_inj_left.mp h2

alias toHV_injective := Mps.ZK.toHV_injective

structure SysTab where
  name : String
  pub : List String
  comm : List String
  proof : List String
  paramNames : List String
  paramTypes : List String
  selRecv : List String
  selField : List String
  ranges : List String
  isvalid : List String
  callParam : List String
  callRecv : List String
  callField : List String

def tabs : List SysTab :=
  [ ⟨"sch", MpsGen.ZK.sch_public, MpsGen.ZK.sch_commitment, MpsGen.ZK.sch_proof, MpsGen.ZK.sch_param_names, MpsGen.ZK.sch_param_types,
      MpsGen.ZK.sch_sel_recv, MpsGen.ZK.sch_sel_field, MpsGen.ZK.sch_ranges, MpsGen.ZK.sch_isvalid,
      MpsGen.ZK.sch_call_param, MpsGen.ZK.sch_call_recv, MpsGen.ZK.sch_call_field⟩,
    ⟨"mod", MpsGen.ZK.mod_public, MpsGen.ZK.mod_commitment, MpsGen.ZK.mod_proof, MpsGen.ZK.mod_param_names, MpsGen.ZK.mod_param_types,
      MpsGen.ZK.mod_sel_recv, MpsGen.ZK.mod_sel_field, MpsGen.ZK.mod_ranges, MpsGen.ZK.mod_isvalid,
      MpsGen.ZK.mod_call_param, MpsGen.ZK.mod_call_recv, MpsGen.ZK.mod_call_field⟩,
    ⟨"prm", MpsGen.ZK.prm_public, MpsGen.ZK.prm_commitment, MpsGen.ZK.prm_proof, MpsGen.ZK.prm_param_names, MpsGen.ZK.prm_param_types,
      MpsGen.ZK.prm_sel_recv, MpsGen.ZK.prm_sel_field, MpsGen.ZK.prm_ranges, MpsGen.ZK.prm_isvalid,
      MpsGen.ZK.prm_call_param, MpsGen.ZK.prm_call_recv, MpsGen.ZK.prm_call_field⟩,
    ⟨"fac", MpsGen.ZK.fac_public, MpsGen.ZK.fac_commitment, MpsGen.ZK.fac_proof, MpsGen.ZK.fac_param_names, MpsGen.ZK.fac_param_types,
      MpsGen.ZK.fac_sel_recv, MpsGen.ZK.fac_sel_field, MpsGen.ZK.fac_ranges, MpsGen.ZK.fac_isvalid,
      MpsGen.ZK.fac_call_param, MpsGen.ZK.fac_call_recv, MpsGen.ZK.fac_call_field⟩,
    ⟨"enc", MpsGen.ZK.enc_public, MpsGen.ZK.enc_commitment, MpsGen.ZK.enc_proof, MpsGen.ZK.enc_param_names, MpsGen.ZK.enc_param_types,
      MpsGen.ZK.enc_sel_recv, MpsGen.ZK.enc_sel_field, MpsGen.ZK.enc_ranges, MpsGen.ZK.enc_isvalid,
      MpsGen.ZK.enc_call_param, MpsGen.ZK.enc_call_recv, MpsGen.ZK.enc_call_field⟩,
    ⟨"encelg", MpsGen.ZK.encelg_public, MpsGen.ZK.encelg_commitment, MpsGen.ZK.encelg_proof, MpsGen.ZK.encelg_param_names, MpsGen.ZK.encelg_param_types,
      MpsGen.ZK.encelg_sel_recv, MpsGen.ZK.encelg_sel_field, MpsGen.ZK.encelg_ranges, MpsGen.ZK.encelg_isvalid,
      MpsGen.ZK.encelg_call_param, MpsGen.ZK.encelg_call_recv, MpsGen.ZK.encelg_call_field⟩,
    ⟨"affg", MpsGen.ZK.affg_public, MpsGen.ZK.affg_commitment, MpsGen.ZK.affg_proof, MpsGen.ZK.affg_param_names, MpsGen.ZK.affg_param_types,
      MpsGen.ZK.affg_sel_recv, MpsGen.ZK.affg_sel_field, MpsGen.ZK.affg_ranges, MpsGen.ZK.affg_isvalid,
      MpsGen.ZK.affg_call_param, MpsGen.ZK.affg_call_recv, MpsGen.ZK.affg_call_field⟩,
    ⟨"affp", MpsGen.ZK.affp_public, MpsGen.ZK.affp_commitment, MpsGen.ZK.affp_proof, MpsGen.ZK.affp_param_names, MpsGen.ZK.affp_param_types,
      MpsGen.ZK.affp_sel_recv, MpsGen.ZK.affp_sel_field, MpsGen.ZK.affp_ranges, MpsGen.ZK.affp_isvalid,
      MpsGen.ZK.affp_call_param, MpsGen.ZK.affp_call_recv, MpsGen.ZK.affp_call_field⟩,
    ⟨"logstar", MpsGen.ZK.logstar_public, MpsGen.ZK.logstar_commitment, MpsGen.ZK.logstar_proof, MpsGen.ZK.logstar_param_names, MpsGen.ZK.logstar_param_types,
      MpsGen.ZK.logstar_sel_recv, MpsGen.ZK.logstar_sel_field, MpsGen.ZK.logstar_ranges, MpsGen.ZK.logstar_isvalid,
      MpsGen.ZK.logstar_call_param, MpsGen.ZK.logstar_call_recv, MpsGen.ZK.logstar_call_field⟩,
    ⟨"elog", MpsGen.ZK.elog_public, MpsGen.ZK.elog_commitment, MpsGen.ZK.elog_proof, MpsGen.ZK.elog_param_names, MpsGen.ZK.elog_param_types,
      MpsGen.ZK.elog_sel_recv, MpsGen.ZK.elog_sel_field, MpsGen.ZK.elog_ranges, MpsGen.ZK.elog_isvalid,
      MpsGen.ZK.elog_call_param, MpsGen.ZK.elog_call_recv, MpsGen.ZK.elog_call_field⟩,
    ⟨"log", MpsGen.ZK.log_public, MpsGen.ZK.log_commitment, MpsGen.ZK.log_proof, MpsGen.ZK.log_param_names, MpsGen.ZK.log_param_types,
      MpsGen.ZK.log_sel_recv, MpsGen.ZK.log_sel_field, MpsGen.ZK.log_ranges, MpsGen.ZK.log_isvalid,
      MpsGen.ZK.log_call_param, MpsGen.ZK.log_call_recv, MpsGen.ZK.log_call_field⟩,
    ⟨"nth", MpsGen.ZK.nth_public, MpsGen.ZK.nth_commitment, MpsGen.ZK.nth_proof, MpsGen.ZK.nth_param_names, MpsGen.ZK.nth_param_types,
      MpsGen.ZK.nth_sel_recv, MpsGen.ZK.nth_sel_field, MpsGen.ZK.nth_ranges, MpsGen.ZK.nth_isvalid,
      MpsGen.ZK.nth_call_param, MpsGen.ZK.nth_call_recv, MpsGen.ZK.nth_call_field⟩,
    ⟨"dec", MpsGen.ZK.dec_public, MpsGen.ZK.dec_commitment, MpsGen.ZK.dec_proof, MpsGen.ZK.dec_param_names, MpsGen.ZK.dec_param_types,
      MpsGen.ZK.dec_sel_recv, MpsGen.ZK.dec_sel_field, MpsGen.ZK.dec_ranges, MpsGen.ZK.dec_isvalid,
      MpsGen.ZK.dec_call_param, MpsGen.ZK.dec_call_recv, MpsGen.ZK.dec_call_field⟩,
    ⟨"mul", MpsGen.ZK.mul_public, MpsGen.ZK.mul_commitment, MpsGen.ZK.mul_proof, MpsGen.ZK.mul_param_names, MpsGen.ZK.mul_param_types,
      MpsGen.ZK.mul_sel_recv, MpsGen.ZK.mul_sel_field, MpsGen.ZK.mul_ranges, MpsGen.ZK.mul_isvalid,
      MpsGen.ZK.mul_call_param, MpsGen.ZK.mul_call_recv, MpsGen.ZK.mul_call_field⟩,
    ⟨"mulstar", MpsGen.ZK.mulstar_public, MpsGen.ZK.mulstar_commitment, MpsGen.ZK.mulstar_proof, MpsGen.ZK.mulstar_param_names, MpsGen.ZK.mulstar_param_types,
      MpsGen.ZK.mulstar_sel_recv, MpsGen.ZK.mulstar_sel_field, MpsGen.ZK.mulstar_ranges, MpsGen.ZK.mulstar_isvalid,
      MpsGen.ZK.mulstar_call_param, MpsGen.ZK.mulstar_call_recv, MpsGen.ZK.mulstar_call_field⟩ ]

def SysTab.sel (t : SysTab) : List (String × String) := t.selRecv.zip t.selField

def structParam (ty : String) : Bool := ty == "Public" || ty == "*Commitment" || ty == "Commitment"

/-- the call `challenge(…)` in `Verify`: (parameter of challenge, receiver, field) per argument -/
def SysTab.call (t : SysTab) : List (String × String × String) := t.callParam.zip (t.callRecv.zip t.callField)

/-- a bare parameter `p` of `challenge()` is written into the hash (directly, or element by element) -/
def SysTab.hashedParam (t : SysTab) (p : String) : Bool := t.sel.contains ("", p) || t.sel.contains ("each", p)

/-- `recv.f` is handed to `challenge()` as a parameter that is hashed -/
def SysTab.passedAndHashed (t : SysTab) (recv f : String) : Bool :=
  t.call.any fun c => c.2.1 == recv && c.2.2 == f && t.hashedParam c.1

/-- every field of `Public` and every field of `Commitment` is an argument of a `hash.WriteAny` in `challenge()`
    (as `public.F` / `commitment.F`, or passed by `Verify` as a bare parameter that is hashed), and every
    non-struct parameter of `challenge()` is hashed -/
def SysTab.covered (t : SysTab) : Bool :=
  t.selRecv.length == t.selField.length &&
  t.callParam.length == t.callRecv.length && t.callRecv.length == t.callField.length &&
  t.pub.all (fun f => f == "<none>" || t.sel.contains ("public", f) || t.passedAndHashed "public" f) &&
  t.comm.all (fun f => f == "<none>" || t.sel.contains ("commitment", f)) &&
  (t.paramNames.zip t.paramTypes).all (fun nt => structParam nt.2 || t.hashedParam nt.1)

/-- All 15 proof systems: every public input and every commitment field is bound by the challenge. -/
theorem challenge_covers_all_fields : tabs.all SysTab.covered = true := by decide +kernel

theorem gen_systems : tabs.map (·.name) =
    ["sch", "mod", "prm", "fac", "enc", "encelg", "affg", "affp", "logstar", "elog", "log", "nth", "dec", "mul", "mulstar"] := rfl

/-- the ordered selector lists of the source are the ones the executable verifiers hash -/
theorem gen_selectors : tabs.map (fun t => (t.name, t.sel)) =
    [("sch", Mps.ZK.Sch.sel),
     ("mod", Mps.ZK.Mod.sel),
     ("prm", Mps.ZK.Prm.sel),
     ("fac", Mps.ZK.Fac.sel),
     ("enc", Mps.ZK.Enc.sel),
     ("encelg", Mps.ZK.Encelg.sel),
     ("affg", Mps.ZK.Affg.sel),
     ("affp", Mps.ZK.Affp.sel),
     ("logstar", Mps.ZK.Logstar.sel),
     ("elog", Mps.ZK.Elog.sel),
     ("log", Mps.ZK.Log.sel),
     ("nth", Mps.ZK.Nth.sel),
     ("dec", Mps.ZK.Dec.sel),
     ("mul", Mps.ZK.Mul.sel),
     ("mulstar", Mps.ZK.Mulstar.sel)] := by decide

/-- which responses are range-checked, with which predicate: exactly the ones of the paper (CGGMP21 Fig. 14–17,
    25–31; zkfac with the extra bit the code documents as a deviation). zkdec and zkmul have no range check in the
    paper either; the code reduces their response before it calls `EncWithNonce` (`plaintext_reduced`). -/
theorem range_checks_match_paper : tabs.map (fun t => (t.name, t.ranges)) =
    [ ("sch", []), ("mod", []), ("prm", []),
      ("fac", ["Z1|IsInIntervalLEpsPlus1RootN", "Z2|IsInIntervalLEpsPlus1RootN"]),
      ("enc", ["Z1|IsInIntervalLEps"]), ("encelg", ["Z1|IsInIntervalLEps"]),
      ("affg", ["Z1|IsInIntervalLEps", "Z2|IsInIntervalLPrimeEps"]),
      ("affp", ["Z1|IsInIntervalLEps", "Z2|IsInIntervalLPrimeEps"]),
      ("logstar", ["Z1|IsInIntervalLEps"]), ("elog", []), ("log", []), ("nth", []), ("dec", []), ("mul", []),
      ("mulstar", ["Z1|IsInIntervalLEps"]) ] := rfl

/-- Classification of every field of every `Proof` struct: `c` the commitment struct (its fields are covered by
    `challenge_covers_all_fields`), `h` a first-flow value hashed through a parameter of `challenge()`, `r` a
    response, `g` the curve handle, `U` a FIRST-FLOW VALUE THAT IS NOT HASHED. A new field breaks the obligation. -/
def proofFieldClasses : List (String × List (String × String)) :=
  [ ("sch", [("C", "c"), ("Z", "r")]),
    ("mod", [("W", "h"), ("Responses", "r")]),
    ("prm", [("As", "h"), ("Zs", "r")]),
    ("fac", [("Comm", "c"), ("Sigma", "U"), ("Z1", "r"), ("Z2", "r"), ("W1", "r"), ("W2", "r"), ("V", "r")]),
    ("enc", [("<embedded *Commitment>", "c"), ("Z1", "r"), ("Z2", "r"), ("Z3", "r")]),
    ("encelg", [("group", "g"), ("<embedded *Commitment>", "c"), ("Z1", "r"), ("W", "r"), ("Z2", "r"), ("Z3", "r")]),
    ("affg", [("group", "g"), ("<embedded *Commitment>", "c"), ("Z1", "r"), ("Z2", "r"), ("Z3", "r"), ("Z4", "r"), ("W", "r"), ("Wy", "r")]),
    ("affp", [("<embedded *Commitment>", "c"), ("Z1", "r"), ("Z2", "r"), ("Z3", "r"), ("Z4", "r"), ("W", "r"), ("Wx", "r"), ("Wy", "r")]),
    ("logstar", [("group", "g"), ("<embedded *Commitment>", "c"), ("Z1", "r"), ("Z2", "r"), ("Z3", "r")]),
    ("elog", [("group", "g"), ("<embedded *Commitment>", "c"), ("Z", "r"), ("U", "r")]),
    ("log", [("group", "g"), ("<embedded *Commitment>", "c"), ("Z1", "r"), ("Z2", "r")]),
    ("nth", [("<embedded Commitment>", "c"), ("Z", "r")]),
    ("dec", [("group", "g"), ("<embedded *Commitment>", "c"), ("Z1", "r"), ("Z2", "r"), ("W", "r")]),
    ("mul", [("<embedded *Commitment>", "c"), ("Z", "r"), ("U", "r"), ("V", "r")]),
    ("mulstar", [("group", "g"), ("<embedded *Commitment>", "c"), ("Z1", "r"), ("Z2", "r"), ("W", "r")]) ]

theorem gen_proof_fields : tabs.map (fun t => (t.name, t.proof)) =
    proofFieldClasses.map (fun p => (p.1, p.2.map (·.1))) := by decide

/-- the first-flow values outside a `Commitment` struct (class `h`: zkmod `W`, zkprm `As`) are passed by `Verify`
    to `challenge()` as a parameter that is hashed -/
theorem gen_first_flow_hashed :
    (tabs.zip proofFieldClasses).all (fun tp =>
      tp.1.name == tp.2.1 && (tp.2.2.filter (fun fc => fc.2 == "h")).all (fun fc => tp.1.passedAndHashed "p" fc.1)) = true := by
  decide

/-- Exactly one first-flow value of the 15 proof systems is not an input of its Fiat–Shamir challenge:
    `zkfac.Proof.Sigma` (σ is drawn before the challenge is computed, sent with the commitment in CGGMP21
    Fig. 28 and enters the verification equation through `R = s^N₀ t^σ`, but `challenge()` hashes only
    `N, Aux, P, Q, A, B, T`). -/
theorem gen_first_flow_unhashed :
    proofFieldClasses.flatMap (fun p => (p.2.filter (fun fc => fc.2 == "U")).map (fun fc => (p.1, fc.1))) =
    [("fac", "Sigma")] := by decide

/-- the packages without an `IsValid`: zkfac only (its `Verify` has the nil guards inline) -/
theorem gen_isvalid_presence :
    (tabs.filter (fun t => t.isvalid == ["<none>"])).map (·.name) = ["fac"] := by decide

/-- `pkg/zk/sch`: what `challenge()` hashes and how it samples, the range checks, `IsValid`, the checks of `Verify`, the field types -/
theorem gen_sch :
    MpsGen.ZK.sch_challenge =
      [ "commitment.C",
       "public",
       "gen",
       "sample.Scalar(hash.Digest(), group)" ] ∧
    MpsGen.ZK.sch_ranges =
      [] ∧
    MpsGen.ZK.sch_isvalid =
      [ "z == nil || z.Z.IsZero() => false" ] ∧
    MpsGen.ZK.sch_verify =
      [ "z == nil || !z.IsValid() || public.IsIdentity() => false",
       "err != nil => false",
       "z.IsValid()",
       "challenge(hash, z.group, commitment, public, gen)",
       "z.Z.Act(gen)",
       "e.Act(public)",
       "rhs.Add(commitment.C)",
       "lhs.Equal(rhs)" ] ∧
    MpsGen.ZK.sch_fields =
      [ "Commitment.C curve.Point",
       "Proof.C Commitment",
       "Proof.Z Response",
       "Response.group curve.Curve",
       "Response.Z curve.Scalar" ] :=
  ⟨rfl, rfl, rfl, rfl, rfl⟩

/-- `pkg/zk/mod`: what `challenge()` hashes and how it samples, the range checks, `IsValid`, the checks of `Verify`, the field types -/
theorem gen_mod :
    MpsGen.ZK.mod_challenge =
      [ "n",
       "w",
       "sample.ModN(digest, n)" ] ∧
    MpsGen.ZK.mod_ranges =
      [] ∧
    MpsGen.ZK.mod_isvalid =
      [ "p == nil => false",
       "p.W == nil => false",
       "N.Bit(0) == 0 || big.Jacobi(p.W, N) != -1 => false",
       "!arith.IsValidBigModN(N, p.W) => false",
       "!arith.IsValidBigModN(N, r.X, r.Z) => false" ] ∧
    MpsGen.ZK.mod_verify =
      [ "!p.IsValid(public) => false",
       "n.Bit(0) == 0 || n.ProbablyPrime(20) => false",
       "big.Jacobi(p.W, n) != -1 => false",
       "!arith.IsValidBigModN(n, p.W) => false",
       "err != nil => false",
       "!verifications[i].(bool) => false",
       "p.IsValid(public)",
       "n.ProbablyPrime(20)",
       "big.Jacobi(p.W, n)",
       "arith.IsValidBigModN(n, p.W)",
       "challenge(hash, nMod, p.W)",
       "p.Responses[i].Verify(n, p.W, ys[i].Big())" ] ∧
    MpsGen.ZK.mod_fields =
      [ "Public.N *saferith.Modulus",
       "Proof.W *big.Int",
       "Proof.Responses [params.StatParam]Response",
       "Response.A bool",
       "Response.B bool",
       "Response.X *big.Int",
       "Response.Z *big.Int" ] :=
  ⟨rfl, rfl, rfl, rfl, rfl⟩

/-- `pkg/zk/prm`: what `challenge()` hashes and how it samples, the range checks, `IsValid`, the checks of `Verify`, the field types -/
theorem gen_prm :
    MpsGen.ZK.prm_challenge =
      [ "public.Aux",
       "each A",
       "io.ReadFull(hash.Digest(), tmpBytes)" ] ∧
    MpsGen.ZK.prm_ranges =
      [] ∧
    MpsGen.ZK.prm_isvalid =
      [ "p == nil => false",
       "!arith.IsValidBigModN(public.Aux.N().Big(), append(p.As[:], p.Zs[:]...)...) => false" ] ∧
    MpsGen.ZK.prm_verify =
      [ "p == nil => false",
       "err := pedersen.ValidateParameters(public.Aux.N(), public.Aux.S(), public.Aux.T()); err != nil => false",
       "!p.IsValid(public) => false",
       "err != nil => false",
       "!arith.IsValidBigModN(n, a, z) => false",
       "a.Cmp(one) == 0 => false",
       "lhs.Cmp(&rhs) != 0 => false",
       "!ok => false",
       "pedersen.ValidateParameters(public.Aux.N(), public.Aux.S(), public.Aux.T())",
       "p.IsValid(public)",
       "challenge(hash, public, p.As)",
       "arith.IsValidBigModN(n, a, z)",
       "a.Cmp(one)",
       "lhs.Exp(t, z, n)",
       "if es[i]: rhs.Mul(a, s)",
       "lhs.Cmp(&rhs)" ] ∧
    MpsGen.ZK.prm_fields =
      [ "Public.Aux *pedersen.Parameters",
       "Proof.As [params.StatParam]*big.Int",
       "Proof.Zs [params.StatParam]*big.Int" ] :=
  ⟨rfl, rfl, rfl, rfl, rfl⟩

/-- `pkg/zk/fac`: what `challenge()` hashes and how it samples, the range checks, `IsValid`, the checks of `Verify`, the field types -/
theorem gen_fac :
    MpsGen.ZK.fac_challenge =
      [ "public.N",
       "public.Aux",
       "commitment.P",
       "commitment.Q",
       "commitment.A",
       "commitment.B",
       "commitment.T",
       "sample.IntervalL(hash.Digest())" ] ∧
    MpsGen.ZK.fac_ranges =
      [ "Z1|IsInIntervalLEpsPlus1RootN",
       "Z2|IsInIntervalLEpsPlus1RootN" ] ∧
    MpsGen.ZK.fac_isvalid =
      [ "<none>" ] ∧
    MpsGen.ZK.fac_verify =
      [ "p == nil => false",
       "p.Sigma == nil || p.Z1 == nil || p.Z2 == nil || p.W1 == nil || p.W2 == nil || p.V == nil || p.Comm.P == nil || p.Comm.Q == nil || p.Comm.A == nil || p.Comm.B == nil || p.Comm.T == nil => false",
       "err != nil => false",
       "!public.Aux.Verify(p.Z1, p.W1, e, p.Comm.A, p.Comm.P) => false",
       "!public.Aux.Verify(p.Z2, p.W2, e, p.Comm.B, p.Comm.Q) => false",
       "lhs.Eq(rhs) != 1 => false",
       "challenge(hash, public, p.Comm)",
       "public.Aux.Verify(p.Z1, p.W1, e, p.Comm.A, p.Comm.P)",
       "public.Aux.Verify(p.Z2, p.W2, e, p.Comm.B, p.Comm.Q)",
       "NhatArith.Exp(R, N0.Nat())",
       "R.ModMul(R, NhatArith.ExpI(public.Aux.T(), p.Sigma), Nhat)",
       "NhatArith.ExpI(public.Aux.T(), p.Sigma)",
       "NhatArith.ExpI(p.Comm.Q, p.Z1)",
       "lhs.ModMul(lhs, NhatArith.ExpI(public.Aux.T(), p.V), Nhat)",
       "NhatArith.ExpI(public.Aux.T(), p.V)",
       "NhatArith.ExpI(R, e)",
       "rhs.ModMul(rhs, p.Comm.T, Nhat)",
       "lhs.Eq(rhs)",
       "arith.IsInIntervalLEpsPlus1RootN(p.Z1)",
       "arith.IsInIntervalLEpsPlus1RootN(p.Z2)" ] ∧
    MpsGen.ZK.fac_fields =
      [ "Public.N *saferith.Modulus",
       "Public.Aux *pedersen.Parameters",
       "Commitment.P *saferith.Nat",
       "Commitment.Q *saferith.Nat",
       "Commitment.A *saferith.Nat",
       "Commitment.B *saferith.Nat",
       "Commitment.T *saferith.Nat",
       "Proof.Comm Commitment",
       "Proof.Sigma *saferith.Int",
       "Proof.Z1 *saferith.Int",
       "Proof.Z2 *saferith.Int",
       "Proof.W1 *saferith.Int",
       "Proof.W2 *saferith.Int",
       "Proof.V *saferith.Int" ] :=
  ⟨rfl, rfl, rfl, rfl, rfl⟩

/-- `pkg/zk/enc`: what `challenge()` hashes and how it samples, the range checks, `IsValid`, the checks of `Verify`, the field types -/
theorem gen_enc :
    MpsGen.ZK.enc_challenge =
      [ "public.Aux",
       "public.Prover",
       "public.K",
       "commitment.S",
       "commitment.A",
       "commitment.C",
       "sample.IntervalScalar(hash.Digest(), group)" ] ∧
    MpsGen.ZK.enc_ranges =
      [ "Z1|IsInIntervalLEps" ] ∧
    MpsGen.ZK.enc_isvalid =
      [ "p == nil => false",
       "p.Commitment == nil || p.Z1 == nil || p.Z2 == nil || p.Z3 == nil || p.S == nil || p.A == nil || p.C == nil => false",
       "!public.Prover.ValidateCiphertexts(p.A) => false",
       "!arith.IsValidNatModN(public.Prover.N(), p.Z2) => false" ] ∧
    MpsGen.ZK.enc_verify =
      [ "!p.IsValid(public) => false",
       "!arith.IsInIntervalLEps(p.Z1) => false",
       "err != nil => false",
       "!public.Aux.Verify(p.Z1, p.Z3, e, p.C, p.S) => false",
       "!lhs.Equal(rhs) => false",
       "p.IsValid(public)",
       "arith.IsInIntervalLEps(p.Z1)",
       "challenge(hash, group, public, p.Commitment)",
       "public.Aux.Verify(p.Z1, p.Z3, e, p.C, p.S)",
       "prover.EncWithNonce(p.Z1, p.Z2)",
       "public.K.Clone().Mul(prover, e).Add(prover, p.A)",
       "public.K.Clone().Mul(prover, e)",
       "lhs.Equal(rhs)" ] ∧
    MpsGen.ZK.enc_fields =
      [ "Public.K *paillier.Ciphertext",
       "Public.Prover *paillier.PublicKey",
       "Public.Aux *pedersen.Parameters",
       "Commitment.S *saferith.Nat",
       "Commitment.A *paillier.Ciphertext",
       "Commitment.C *saferith.Nat",
       "Proof.<embedded> *Commitment",
       "Proof.Z1 *saferith.Int",
       "Proof.Z2 *saferith.Nat",
       "Proof.Z3 *saferith.Int" ] :=
  ⟨rfl, rfl, rfl, rfl, rfl⟩

/-- `pkg/zk/encelg`: what `challenge()` hashes and how it samples, the range checks, `IsValid`, the checks of `Verify`, the field types -/
theorem gen_encelg :
    MpsGen.ZK.encelg_challenge =
      [ "public.Aux",
       "public.Prover",
       "public.C",
       "public.A",
       "public.B",
       "public.X",
       "commitment.S",
       "commitment.D",
       "commitment.Y",
       "commitment.Z",
       "commitment.T",
       "sample.IntervalScalar(hash.Digest(), group)" ] ∧
    MpsGen.ZK.encelg_ranges =
      [ "Z1|IsInIntervalLEps" ] ∧
    MpsGen.ZK.encelg_isvalid =
      [ "p == nil => false",
       "p.Commitment == nil || p.Z1 == nil || p.W == nil || p.Z2 == nil || p.Z3 == nil || p.S == nil || p.D == nil || p.Y == nil || p.Z == nil || p.T == nil => false",
       "!public.Prover.ValidateCiphertexts(p.D) => false",
       "p.W.IsZero() || p.Y.IsIdentity() || p.Z.IsIdentity() => false",
       "!arith.IsValidNatModN(public.Prover.N(), p.Z2) => false" ] ∧
    MpsGen.ZK.encelg_verify =
      [ "!p.IsValid(public) => false",
       "!arith.IsInIntervalLEps(p.Z1) => false",
       "err != nil => false",
       "!lhs.Equal(rhs) => false",
       "!lhs.Equal(rhs) => false",
       "!lhs.Equal(rhs) => false",
       "!public.Aux.Verify(p.Z1, p.Z3, e, p.T, p.S) => false",
       "p.IsValid(public)",
       "arith.IsInIntervalLEps(p.Z1)",
       "challenge(hash, p.group, public, p.Commitment)",
       "prover.EncWithNonce(p.Z1, p.Z2)",
       "public.C.Clone().Mul(prover, e).Add(prover, p.D)",
       "public.C.Clone().Mul(prover, e)",
       "lhs.Equal(rhs)",
       "z1.ActOnBase().Add(p.W.Act(public.A))",
       "z1.ActOnBase()",
       "p.W.Act(public.A)",
       "eScalar.Act(public.X).Add(p.Y)",
       "eScalar.Act(public.X)",
       "lhs.Equal(rhs)",
       "p.W.ActOnBase()",
       "eScalar.Act(public.B).Add(p.Z)",
       "eScalar.Act(public.B)",
       "lhs.Equal(rhs)",
       "public.Aux.Verify(p.Z1, p.Z3, e, p.T, p.S)" ] ∧
    MpsGen.ZK.encelg_fields =
      [ "Public.C *paillier.Ciphertext",
       "Public.A curve.Point",
       "Public.B curve.Point",
       "Public.X curve.Point",
       "Public.Prover *paillier.PublicKey",
       "Public.Aux *pedersen.Parameters",
       "Commitment.S *saferith.Nat",
       "Commitment.D *paillier.Ciphertext",
       "Commitment.Y curve.Point",
       "Commitment.Z curve.Point",
       "Commitment.T *saferith.Nat",
       "Proof.group curve.Curve",
       "Proof.<embedded> *Commitment",
       "Proof.Z1 *saferith.Int",
       "Proof.W curve.Scalar",
       "Proof.Z2 *saferith.Nat",
       "Proof.Z3 *saferith.Int" ] :=
  ⟨rfl, rfl, rfl, rfl, rfl⟩

/-- `pkg/zk/affg`: what `challenge()` hashes and how it samples, the range checks, `IsValid`, the checks of `Verify`, the field types -/
theorem gen_affg :
    MpsGen.ZK.affg_challenge =
      [ "public.Aux",
       "public.Prover",
       "public.Verifier",
       "public.Kv",
       "public.Dv",
       "public.Fp",
       "public.Xp",
       "commitment.A",
       "commitment.Bx",
       "commitment.By",
       "commitment.E",
       "commitment.S",
       "commitment.F",
       "commitment.T",
       "sample.IntervalScalar(hash.Digest(), group)" ] ∧
    MpsGen.ZK.affg_ranges =
      [ "Z1|IsInIntervalLEps",
       "Z2|IsInIntervalLPrimeEps" ] ∧
    MpsGen.ZK.affg_isvalid =
      [ "p == nil => false",
       "p.Commitment == nil || p.Z1 == nil || p.Z2 == nil || p.Z3 == nil || p.Z4 == nil || p.W == nil || p.Wy == nil || p.A == nil || p.Bx == nil || p.By == nil || p.E == nil || p.S == nil || p.F == nil || p.T == nil => false",
       "!public.Verifier.ValidateCiphertexts(p.A) => false",
       "!public.Prover.ValidateCiphertexts(p.By) => false",
       "!arith.IsValidNatModN(public.Prover.N(), p.Wy) => false",
       "!arith.IsValidNatModN(public.Verifier.N(), p.W) => false",
       "p.Bx.IsIdentity() => false" ] ∧
    MpsGen.ZK.affg_verify =
      [ "!p.IsValid(public) => false",
       "!arith.IsInIntervalLEps(p.Z1) => false",
       "!arith.IsInIntervalLPrimeEps(p.Z2) => false",
       "err != nil => false",
       "!public.Aux.Verify(p.Z1, p.Z3, e, p.E, p.S) => false",
       "!public.Aux.Verify(p.Z2, p.Z4, e, p.F, p.T) => false",
       "!lhs.Equal(rhs) => false",
       "!lhs.Equal(rhs) => false",
       "!lhs.Equal(rhs) => false",
       "p.IsValid(public)",
       "arith.IsInIntervalLEps(p.Z1)",
       "arith.IsInIntervalLPrimeEps(p.Z2)",
       "challenge(hash, p.group, public, p.Commitment)",
       "public.Aux.Verify(p.Z1, p.Z3, e, p.E, p.S)",
       "public.Aux.Verify(p.Z2, p.Z4, e, p.F, p.T)",
       "public.Kv.Clone().Mul(verifier, p.Z1)",
       "verifier.EncWithNonce(p.Z2, p.W).Add(verifier, tmp)",
       "verifier.EncWithNonce(p.Z2, p.W)",
       "public.Dv.Clone().Mul(verifier, e).Add(verifier, p.A)",
       "public.Dv.Clone().Mul(verifier, e)",
       "lhs.Equal(rhs)",
       "p.group.NewScalar().SetNat(p.Z1.Mod(p.group.Order())).ActOnBase()",
       "p.group.NewScalar().SetNat(e.Mod(p.group.Order())).Act(public.Xp)",
       "rhs.Add(p.Bx)",
       "lhs.Equal(rhs)",
       "prover.EncWithNonce(p.Z2, p.Wy)",
       "public.Fp.Clone().Mul(prover, e).Add(prover, p.By)",
       "public.Fp.Clone().Mul(prover, e)",
       "lhs.Equal(rhs)" ] ∧
    MpsGen.ZK.affg_fields =
      [ "Public.Kv *paillier.Ciphertext",
       "Public.Dv *paillier.Ciphertext",
       "Public.Fp *paillier.Ciphertext",
       "Public.Xp curve.Point",
       "Public.Prover *paillier.PublicKey",
       "Public.Verifier *paillier.PublicKey",
       "Public.Aux *pedersen.Parameters",
       "Commitment.A *paillier.Ciphertext",
       "Commitment.Bx curve.Point",
       "Commitment.By *paillier.Ciphertext",
       "Commitment.E *saferith.Nat",
       "Commitment.S *saferith.Nat",
       "Commitment.F *saferith.Nat",
       "Commitment.T *saferith.Nat",
       "Proof.group curve.Curve",
       "Proof.<embedded> *Commitment",
       "Proof.Z1 *saferith.Int",
       "Proof.Z2 *saferith.Int",
       "Proof.Z3 *saferith.Int",
       "Proof.Z4 *saferith.Int",
       "Proof.W *saferith.Nat",
       "Proof.Wy *saferith.Nat" ] :=
  ⟨rfl, rfl, rfl, rfl, rfl⟩

/-- `pkg/zk/affp`: what `challenge()` hashes and how it samples, the range checks, `IsValid`, the checks of `Verify`, the field types -/
theorem gen_affp :
    MpsGen.ZK.affp_challenge =
      [ "public.Aux",
       "public.Prover",
       "public.Verifier",
       "public.Kv",
       "public.Dv",
       "public.Fp",
       "public.Xp",
       "commitment.A",
       "commitment.Bx",
       "commitment.By",
       "commitment.E",
       "commitment.S",
       "commitment.F",
       "commitment.T",
       "sample.IntervalScalar(hash.Digest(), group)" ] ∧
    MpsGen.ZK.affp_ranges =
      [ "Z1|IsInIntervalLEps",
       "Z2|IsInIntervalLPrimeEps" ] ∧
    MpsGen.ZK.affp_isvalid =
      [ "p == nil => false",
       "p.Commitment == nil || p.Z1 == nil || p.Z2 == nil || p.Z3 == nil || p.Z4 == nil || p.W == nil || p.Wx == nil || p.Wy == nil || p.A == nil || p.Bx == nil || p.By == nil || p.E == nil || p.S == nil || p.F == nil || p.T == nil => false",
       "!public.Verifier.ValidateCiphertexts(p.A) => false",
       "!public.Prover.ValidateCiphertexts(p.Bx, p.By) => false",
       "!arith.IsValidNatModN(public.Prover.N(), p.Wx, p.Wy) => false",
       "!arith.IsValidNatModN(public.Verifier.N(), p.W) => false" ] ∧
    MpsGen.ZK.affp_verify =
      [ "!p.IsValid(public) => false",
       "!arith.IsInIntervalLEps(p.Z1) => false",
       "!arith.IsInIntervalLPrimeEps(p.Z2) => false",
       "err != nil => false",
       "!lhs.Equal(rhs) => false",
       "!lhs.Equal(rhs) => false",
       "!lhs.Equal(rhs) => false",
       "!public.Aux.Verify(p.Z1, p.Z3, e, p.E, p.S) => false",
       "!public.Aux.Verify(p.Z2, p.Z4, e, p.F, p.T) => false",
       "p.IsValid(public)",
       "arith.IsInIntervalLEps(p.Z1)",
       "arith.IsInIntervalLPrimeEps(p.Z2)",
       "challenge(hash, group, public, p.Commitment)",
       "public.Kv.Clone().Mul(verifier, p.Z1)",
       "verifier.EncWithNonce(p.Z2, p.W).Add(verifier, tmp)",
       "verifier.EncWithNonce(p.Z2, p.W)",
       "public.Dv.Clone().Mul(verifier, e).Add(verifier, p.A)",
       "public.Dv.Clone().Mul(verifier, e)",
       "lhs.Equal(rhs)",
       "prover.EncWithNonce(p.Z1, p.Wx)",
       "public.Xp.Clone().Mul(prover, e).Add(prover, p.Bx)",
       "public.Xp.Clone().Mul(prover, e)",
       "lhs.Equal(rhs)",
       "prover.EncWithNonce(p.Z2, p.Wy)",
       "public.Fp.Clone().Mul(prover, e).Add(prover, p.By)",
       "public.Fp.Clone().Mul(prover, e)",
       "lhs.Equal(rhs)",
       "public.Aux.Verify(p.Z1, p.Z3, e, p.E, p.S)",
       "public.Aux.Verify(p.Z2, p.Z4, e, p.F, p.T)" ] ∧
    MpsGen.ZK.affp_fields =
      [ "Public.Kv *paillier.Ciphertext",
       "Public.Dv *paillier.Ciphertext",
       "Public.Fp *paillier.Ciphertext",
       "Public.Xp *paillier.Ciphertext",
       "Public.Prover *paillier.PublicKey",
       "Public.Verifier *paillier.PublicKey",
       "Public.Aux *pedersen.Parameters",
       "Commitment.A *paillier.Ciphertext",
       "Commitment.Bx *paillier.Ciphertext",
       "Commitment.By *paillier.Ciphertext",
       "Commitment.E *saferith.Nat",
       "Commitment.S *saferith.Nat",
       "Commitment.F *saferith.Nat",
       "Commitment.T *saferith.Nat",
       "Proof.<embedded> *Commitment",
       "Proof.Z1 *saferith.Int",
       "Proof.Z2 *saferith.Int",
       "Proof.Z3 *saferith.Int",
       "Proof.Z4 *saferith.Int",
       "Proof.W *saferith.Nat",
       "Proof.Wx *saferith.Nat",
       "Proof.Wy *saferith.Nat" ] :=
  ⟨rfl, rfl, rfl, rfl, rfl⟩

/-- `pkg/zk/logstar`: what `challenge()` hashes and how it samples, the range checks, `IsValid`, the checks of `Verify`, the field types -/
theorem gen_logstar :
    MpsGen.ZK.logstar_challenge =
      [ "public.Aux",
       "public.Prover",
       "public.C",
       "public.X",
       "public.G",
       "commitment.S",
       "commitment.A",
       "commitment.Y",
       "commitment.D",
       "sample.IntervalScalar(hash.Digest(), group)" ] ∧
    MpsGen.ZK.logstar_ranges =
      [ "Z1|IsInIntervalLEps" ] ∧
    MpsGen.ZK.logstar_isvalid =
      [ "p == nil => false",
       "p.Commitment == nil || p.Z1 == nil || p.Z2 == nil || p.Z3 == nil || p.S == nil || p.A == nil || p.Y == nil || p.D == nil => false",
       "!public.Prover.ValidateCiphertexts(p.A) => false",
       "p.Y.IsIdentity() => false",
       "!arith.IsValidNatModN(public.Prover.N(), p.Z2) => false" ] ∧
    MpsGen.ZK.logstar_verify =
      [ "!p.IsValid(public) => false",
       "!arith.IsInIntervalLEps(p.Z1) => false",
       "err != nil => false",
       "!public.Aux.Verify(p.Z1, p.Z3, e, p.D, p.S) => false",
       "!lhs.Equal(rhs) => false",
       "!lhs.Equal(rhs) => false",
       "p.IsValid(public)",
       "arith.IsInIntervalLEps(p.Z1)",
       "challenge(hash, p.group, public, p.Commitment)",
       "public.Aux.Verify(p.Z1, p.Z3, e, p.D, p.S)",
       "prover.EncWithNonce(p.Z1, p.Z2)",
       "public.C.Clone().Mul(prover, e).Add(prover, p.A)",
       "public.C.Clone().Mul(prover, e)",
       "lhs.Equal(rhs)",
       "p.group.NewScalar().SetNat(p.Z1.Mod(p.group.Order())).Act(public.G)",
       "p.group.NewScalar().SetNat(e.Mod(p.group.Order())).Act(public.X)",
       "rhs.Add(p.Y)",
       "lhs.Equal(rhs)" ] ∧
    MpsGen.ZK.logstar_fields =
      [ "Public.C *paillier.Ciphertext",
       "Public.X curve.Point",
       "Public.G curve.Point",
       "Public.Prover *paillier.PublicKey",
       "Public.Aux *pedersen.Parameters",
       "Commitment.S *saferith.Nat",
       "Commitment.A *paillier.Ciphertext",
       "Commitment.Y curve.Point",
       "Commitment.D *saferith.Nat",
       "Proof.group curve.Curve",
       "Proof.<embedded> *Commitment",
       "Proof.Z1 *saferith.Int",
       "Proof.Z2 *saferith.Nat",
       "Proof.Z3 *saferith.Int" ] :=
  ⟨rfl, rfl, rfl, rfl, rfl⟩

/-- `pkg/zk/elog`: what `challenge()` hashes and how it samples, the range checks, `IsValid`, the checks of `Verify`, the field types -/
theorem gen_elog :
    MpsGen.ZK.elog_challenge =
      [ "public.E",
       "public.ElGamalPublic",
       "public.Y",
       "public.Base",
       "commitment.A",
       "commitment.N",
       "commitment.B",
       "sample.Scalar(hash.Digest(), group)" ] ∧
    MpsGen.ZK.elog_ranges =
      [] ∧
    MpsGen.ZK.elog_isvalid =
      [ "p == nil => false",
       "p.Commitment == nil || p.Z == nil || p.U == nil || p.A == nil || p.N == nil || p.B == nil => false",
       "p.A.IsIdentity() || p.N.IsIdentity() || p.B.IsIdentity() => false",
       "p.Z.IsZero() || p.U.IsZero() => false" ] ∧
    MpsGen.ZK.elog_verify =
      [ "!p.IsValid(public) => false",
       "err != nil => false",
       "!lhs.Equal(rhs) => false",
       "!lhs.Equal(rhs) => false",
       "!lhs.Equal(rhs) => false",
       "p.IsValid(public)",
       "challenge(hash, p.group, public, p.Commitment)",
       "p.Z.ActOnBase()",
       "e.Act(public.E.L).Add(p.A)",
       "e.Act(public.E.L)",
       "lhs.Equal(rhs)",
       "p.U.ActOnBase().Add(p.Z.Act(public.ElGamalPublic))",
       "p.U.ActOnBase()",
       "p.Z.Act(public.ElGamalPublic)",
       "e.Act(public.E.M).Add(p.N)",
       "e.Act(public.E.M)",
       "lhs.Equal(rhs)",
       "p.U.Act(public.Base)",
       "e.Act(public.Y).Add(p.B)",
       "e.Act(public.Y)",
       "lhs.Equal(rhs)" ] ∧
    MpsGen.ZK.elog_fields =
      [ "Public.E *elgamal.Ciphertext",
       "Public.ElGamalPublic elgamal.PublicKey",
       "Public.Base curve.Point",
       "Public.Y curve.Point",
       "Commitment.A curve.Point",
       "Commitment.N curve.Point",
       "Commitment.B curve.Point",
       "Proof.group curve.Curve",
       "Proof.<embedded> *Commitment",
       "Proof.Z curve.Scalar",
       "Proof.U curve.Scalar" ] :=
  ⟨rfl, rfl, rfl, rfl, rfl⟩

/-- `pkg/zk/log`: what `challenge()` hashes and how it samples, the range checks, `IsValid`, the checks of `Verify`, the field types -/
theorem gen_log :
    MpsGen.ZK.log_challenge =
      [ "public.H",
       "public.X",
       "public.Y",
       "commitment.A",
       "commitment.B",
       "commitment.C",
       "sample.Scalar(hash.Digest(), group)" ] ∧
    MpsGen.ZK.log_ranges =
      [] ∧
    MpsGen.ZK.log_isvalid =
      [ "p == nil => false",
       "p.Commitment == nil || p.Z1 == nil || p.Z2 == nil || p.A == nil || p.B == nil || p.C == nil => false",
       "p.A.IsIdentity() || p.B.IsIdentity() || p.C.IsIdentity() => false",
       "p.Z1.IsZero() || p.Z2.IsZero() => false" ] ∧
    MpsGen.ZK.log_verify =
      [ "!p.IsValid() => false",
       "err != nil => false",
       "!lhs.Equal(rhs) => false",
       "!lhs.Equal(rhs) => false",
       "!lhs.Equal(rhs) => false",
       "p.IsValid()",
       "challenge(hash, p.group, public, p.Commitment)",
       "p.Z1.ActOnBase()",
       "e.Act(public.X).Add(p.A)",
       "e.Act(public.X)",
       "lhs.Equal(rhs)",
       "p.Z1.Act(public.H)",
       "e.Act(public.Y).Add(p.B)",
       "e.Act(public.Y)",
       "lhs.Equal(rhs)",
       "p.Z2.ActOnBase()",
       "e.Act(public.H).Add(p.C)",
       "e.Act(public.H)",
       "lhs.Equal(rhs)" ] ∧
    MpsGen.ZK.log_fields =
      [ "Public.H curve.Point",
       "Public.X curve.Point",
       "Public.Y curve.Point",
       "Commitment.A curve.Point",
       "Commitment.B curve.Point",
       "Commitment.C curve.Point",
       "Proof.group curve.Curve",
       "Proof.<embedded> *Commitment",
       "Proof.Z1 curve.Scalar",
       "Proof.Z2 curve.Scalar" ] :=
  ⟨rfl, rfl, rfl, rfl, rfl⟩

/-- `pkg/zk/nth`: what `challenge()` hashes and how it samples, the range checks, `IsValid`, the checks of `Verify`, the field types -/
theorem gen_nth :
    MpsGen.ZK.nth_challenge =
      [ "public.N",
       "public.R",
       "commitment.A",
       "sample.IntervalL(hash.Digest())" ] ∧
    MpsGen.ZK.nth_ranges =
      [] ∧
    MpsGen.ZK.nth_isvalid =
      [ "p == nil => false",
       "p.Z == nil || p.A == nil => false",
       "!arith.IsValidNatModN(public.N.N(), p.Z) => false",
       "!arith.IsValidNatModN(public.N.ModulusSquared().Modulus, p.A) => false" ] ∧
    MpsGen.ZK.nth_verify =
      [ "!p.IsValid(public) => false",
       "err != nil => false",
       "lhs.Eq(rhs) != 1 => false",
       "p.IsValid(public)",
       "challenge(hash, public, p.Commitment)",
       "NSquared.Exp(p.Z, public.N.N().Nat())",
       "NSquared.ExpI(public.R, e)",
       "rhs.ModMul(rhs, p.A, NSquared.Modulus)",
       "lhs.Eq(rhs)" ] ∧
    MpsGen.ZK.nth_fields =
      [ "Public.N *paillier.PublicKey",
       "Public.R *saferith.Nat",
       "Commitment.A *saferith.Nat",
       "Proof.<embedded> Commitment",
       "Proof.Z *saferith.Nat" ] :=
  ⟨rfl, rfl, rfl, rfl, rfl⟩

/-- `pkg/zk/dec`: what `challenge()` hashes and how it samples, the range checks, `IsValid`, the checks of `Verify`, the field types -/
theorem gen_dec :
    MpsGen.ZK.dec_challenge =
      [ "public.Aux",
       "public.Prover",
       "public.C",
       "public.X",
       "commitment.S",
       "commitment.T",
       "commitment.A",
       "commitment.Gamma",
       "sample.IntervalScalar(hash.Digest(), group)" ] ∧
    MpsGen.ZK.dec_ranges =
      [] ∧
    MpsGen.ZK.dec_isvalid =
      [ "p == nil => false",
       "p.Commitment == nil || p.Z1 == nil || p.Z2 == nil || p.W == nil || p.S == nil || p.T == nil || p.A == nil || p.Gamma == nil => false",
       "p.Gamma == nil || p.Gamma.IsZero() => false",
       "!public.Prover.ValidateCiphertexts(p.A) => false",
       "!arith.IsValidNatModN(public.Prover.N(), p.W) => false" ] ∧
    MpsGen.ZK.dec_verify =
      [ "!p.IsValid(public) => false",
       "err != nil => false",
       "!public.Aux.Verify(p.Z1, p.Z2, e, p.T, p.S) => false",
       "!lhs.Equal(rhs) => false",
       "!lhs.Equal(rhs) => false",
       "p.IsValid(public)",
       "challenge(hash, p.group, public, p.Commitment)",
       "public.Aux.Verify(p.Z1, p.Z2, e, p.T, p.S)",
       "public.Prover.EncWithNonce(z1, p.W)",
       "public.C.Clone().Mul(public.Prover, e).Add(public.Prover, p.A)",
       "public.C.Clone().Mul(public.Prover, e)",
       "lhs.Equal(rhs)",
       "p.group.NewScalar().SetNat(e.Mod(p.group.Order())).Mul(public.X).Add(p.Gamma)",
       "p.group.NewScalar().SetNat(e.Mod(p.group.Order())).Mul(public.X)",
       "lhs.Equal(rhs)" ] ∧
    MpsGen.ZK.dec_fields =
      [ "Public.C *paillier.Ciphertext",
       "Public.X curve.Scalar",
       "Public.Prover *paillier.PublicKey",
       "Public.Aux *pedersen.Parameters",
       "Commitment.S *saferith.Nat",
       "Commitment.T *saferith.Nat",
       "Commitment.A *paillier.Ciphertext",
       "Commitment.Gamma curve.Scalar",
       "Proof.group curve.Curve",
       "Proof.<embedded> *Commitment",
       "Proof.Z1 *saferith.Int",
       "Proof.Z2 *saferith.Int",
       "Proof.W *saferith.Nat" ] :=
  ⟨rfl, rfl, rfl, rfl, rfl⟩

/-- `pkg/zk/mul`: what `challenge()` hashes and how it samples, the range checks, `IsValid`, the checks of `Verify`, the field types -/
theorem gen_mul :
    MpsGen.ZK.mul_challenge =
      [ "public.Prover",
       "public.X",
       "public.Y",
       "public.C",
       "commitment.A",
       "commitment.B",
       "sample.IntervalScalar(hash.Digest(), group)" ] ∧
    MpsGen.ZK.mul_ranges =
      [] ∧
    MpsGen.ZK.mul_isvalid =
      [ "p == nil => false",
       "p.Commitment == nil || p.Z == nil || p.U == nil || p.V == nil || p.A == nil || p.B == nil => false",
       "!arith.IsValidNatModN(public.Prover.N(), p.U, p.V) => false",
       "!public.Prover.ValidateCiphertexts(p.A, p.B) => false" ] ∧
    MpsGen.ZK.mul_verify =
      [ "!p.IsValid(public) => false",
       "err != nil => false",
       "!lhs.Equal(rhs) => false",
       "!lhs.Equal(rhs) => false",
       "p.IsValid(public)",
       "challenge(hash, group, public, p.Commitment)",
       "public.Y.Clone().Mul(prover, p.Z)",
       "lhs.Randomize(prover, p.U)",
       "public.C.Clone().Mul(prover, e).Add(prover, p.A)",
       "public.C.Clone().Mul(prover, e)",
       "lhs.Equal(rhs)",
       "prover.EncWithNonce(z, p.V)",
       "public.X.Clone().Mul(prover, e).Add(prover, p.B)",
       "public.X.Clone().Mul(prover, e)",
       "lhs.Equal(rhs)" ] ∧
    MpsGen.ZK.mul_fields =
      [ "Public.X *paillier.Ciphertext",
       "Public.Y *paillier.Ciphertext",
       "Public.C *paillier.Ciphertext",
       "Public.Prover *paillier.PublicKey",
       "Commitment.A *paillier.Ciphertext",
       "Commitment.B *paillier.Ciphertext",
       "Proof.<embedded> *Commitment",
       "Proof.Z *saferith.Int",
       "Proof.U *saferith.Nat",
       "Proof.V *saferith.Nat" ] :=
  ⟨rfl, rfl, rfl, rfl, rfl⟩

/-- `pkg/zk/mulstar`: what `challenge()` hashes and how it samples, the range checks, `IsValid`, the checks of `Verify`, the field types -/
theorem gen_mulstar :
    MpsGen.ZK.mulstar_challenge =
      [ "public.Aux",
       "public.Verifier",
       "public.C",
       "public.D",
       "public.X",
       "commitment.A",
       "commitment.Bx",
       "commitment.E",
       "commitment.S",
       "sample.IntervalScalar(hash.Digest(), group)" ] ∧
    MpsGen.ZK.mulstar_ranges =
      [ "Z1|IsInIntervalLEps" ] ∧
    MpsGen.ZK.mulstar_isvalid =
      [ "p == nil => false",
       "p.Commitment == nil || p.Z1 == nil || p.Z2 == nil || p.W == nil || p.A == nil || p.Bx == nil || p.E == nil || p.S == nil => false",
       "!arith.IsValidNatModN(public.Verifier.N(), p.W) => false",
       "!public.Verifier.ValidateCiphertexts(p.A) => false",
       "p.Bx.IsIdentity() => false" ] ∧
    MpsGen.ZK.mulstar_verify =
      [ "!p.IsValid(public) => false",
       "!arith.IsInIntervalLEps(p.Z1) => false",
       "err != nil => false",
       "!public.Aux.Verify(p.Z1, p.Z2, e, p.E, p.S) => false",
       "!lhs.Equal(rhs) => false",
       "!lhs.Equal(rhs) => false",
       "p.IsValid(public)",
       "arith.IsInIntervalLEps(p.Z1)",
       "challenge(group, hash, public, p.Commitment)",
       "public.Aux.Verify(p.Z1, p.Z2, e, p.E, p.S)",
       "public.C.Clone().Mul(verifier, p.Z1)",
       "lhs.Randomize(verifier, p.W)",
       "public.D.Clone().Mul(verifier, e).Add(verifier, p.A)",
       "public.D.Clone().Mul(verifier, e)",
       "lhs.Equal(rhs)",
       "p.group.NewScalar().SetNat(p.Z1.Mod(p.group.Order())).ActOnBase()",
       "p.group.NewScalar().SetNat(e.Mod(p.group.Order())).Act(public.X)",
       "rhs.Add(p.Bx)",
       "lhs.Equal(rhs)" ] ∧
    MpsGen.ZK.mulstar_fields =
      [ "Public.C *paillier.Ciphertext",
       "Public.D *paillier.Ciphertext",
       "Public.X curve.Point",
       "Public.Verifier *paillier.PublicKey",
       "Public.Aux *pedersen.Parameters",
       "Commitment.A *paillier.Ciphertext",
       "Commitment.Bx curve.Point",
       "Commitment.E *saferith.Nat",
       "Commitment.S *saferith.Nat",
       "Proof.group curve.Curve",
       "Proof.<embedded> *Commitment",
       "Proof.Z1 *saferith.Int",
       "Proof.Z2 *saferith.Int",
       "Proof.W *saferith.Nat" ] :=
  ⟨rfl, rfl, rfl, rfl, rfl⟩

theorem gen_mod_response_verify : MpsGen.ZK.mod_response_verify =
    [ "lhs.Cmp(y) != 0 => false",
       "lhs.Exp(r.Z, n, n)",
       "lhs.Cmp(y)",
       "lhs.Mul(r.X, r.X)",
       "lhs.Mul(&lhs, &lhs)",
       "lhs.Mod(&lhs, n)",
       "rhs.Set(y)",
       "if r.A: rhs.Neg(&rhs)",
       "if r.B: rhs.Mul(&rhs, w)",
       "rhs.Mod(&rhs, n)",
       "lhs.Cmp(&rhs)" ] := rfl

theorem gen_sch_proof_verify : MpsGen.ZK.sch_proof_verify =
    [ "!p.IsValid() => false",
       "p.IsValid()",
       "p.Z.Verify(hash, public, &p.C, gen)" ] := rfl

theorem gen_sch_proof_isvalid : MpsGen.ZK.sch_proof_isvalid =
    [ "p == nil || !p.Z.IsValid() || !p.C.IsValid() => false",
       "c == nil || c.C.IsIdentity() => false" ] := rfl

theorem gen_sampleNeg : MpsGen.ZK.sampleNeg =
    [ "buf := make([]byte, bits/8+1)",
       "mustReadBits(rand, buf)",
       "neg := saferith.Choice(buf[0] & 1)",
       "buf = buf[1:]",
       "out := new(saferith.Int).SetBytes(buf)",
       "out.Neg(neg)",
       "return out" ] := rfl

theorem gen_sampleIntervals : MpsGen.ZK.sampleIntervals =
    [ "IntervalL: sampleNeg(rand, params.L)",
       "IntervalLPrime: sampleNeg(rand, params.LPrime)",
       "IntervalEps: sampleNeg(rand, params.Epsilon)",
       "IntervalLEps: sampleNeg(rand, params.LPlusEpsilon)",
       "IntervalLPrimeEps: sampleNeg(rand, params.LPrimePlusEpsilon)",
       "IntervalLN: sampleNeg(rand, params.L+params.BitsIntModN)",
       "IntervalLN2: sampleNeg(rand, params.L+(2*params.BitsIntModN))",
       "IntervalLEpsN: sampleNeg(rand, params.LPlusEpsilon+params.BitsIntModN)",
       "IntervalLEpsN2: sampleNeg(rand, params.LPlusEpsilon+(2*params.BitsIntModN))",
       "IntervalLEpsRootN: sampleNeg(rand, params.LPlusEpsilon+(params.BitsIntModN/2))",
       "IntervalScalar: sampleNeg(rand, group.ScalarBits())" ] := rfl

theorem gen_sampleModN : MpsGen.ZK.sampleModN =
    [ "out := new(saferith.Nat)",
       "buf := make([]byte, (n.BitLen()+7)/8)",
       "n = saferith.ModulusFromNat(n.Nat())",
       "for { mustReadBits(rand, buf) out.SetBytes(buf) _, _, lt := out.CmpMod(n) if lt == 1 { break } }",
       "return out" ] := rfl

theorem gen_sampleScalar : MpsGen.ZK.sampleScalar =
    [ "buffer := make([]byte, group.SafeScalarBytes())",
       "mustReadBits(rand, buffer)",
       "n := new(saferith.Nat).SetBytes(buffer)",
       "return group.NewScalar().SetNat(n)" ] := rfl

theorem gen_mustReadBits : MpsGen.ZK.mustReadBits =
    [ "for i := 0; i < maxIterations; i++ { if _, err := io.ReadFull(rand, buf); err == nil { return } }",
       "panic(ErrMaxIterations)" ] := rfl

theorem gen_prmChallenge : MpsGen.ZK.prmChallenge =
    [ "err = hash.WriteAny(public.Aux)",
       "for _, a := range A { _ = hash.WriteAny(a) }",
       "tmpBytes := make([]byte, params.StatParam)",
       "_, _ = io.ReadFull(hash.Digest(), tmpBytes)",
       "es = make([]bool, params.StatParam)",
       "for i := range es { b := (tmpBytes[i] & 1) == 1 es[i] = b }",
       "return" ] := rfl

theorem gen_modChallenge : MpsGen.ZK.modChallenge =
    [ "err = hash.WriteAny(n, w)",
       "es = make([]*saferith.Nat, params.StatParam)",
       "var digest = hash.Digest()",
       "for i := range es { es[i] = sample.ModN(digest, n) }",
       "return" ] := rfl

theorem gen_curveScalarSizes : MpsGen.ZK.curveScalarSizes =
    [ "256",
       "32" ] := rfl

theorem gen_rangePredicates : MpsGen.ZK.rangePredicates =
    [ "IsInIntervalLEps: false; n.TrueLen() <= params.LPlusEpsilon",
       "IsInIntervalLPrimeEps: false; n.TrueLen() <= params.LPrimePlusEpsilon",
       "IsInIntervalLEpsPlus1RootN: false; n.TrueLen() <= 1+params.LPlusEpsilon+(params.BitsIntModN/2)" ] := rfl

theorem gen_isValidNatModN : MpsGen.ZK.isValidNatModN =
    [ "i == nil => false",
       "_, _, lt := i.CmpMod(N); lt != 1 => false",
       "i.IsUnit(N) != 1 => false" ] := rfl

theorem gen_isValidBigModN : MpsGen.ZK.isValidBigModN =
    [ "i == nil => false",
       "i.Sign() != 1 => false",
       "i.Cmp(N) != -1 => false",
       "gcd.Cmp(one) != 0 => false" ] := rfl

theorem gen_pedersenVerify : MpsGen.ZK.pedersenVerify =
    [ "a == nil || b == nil || S == nil || T == nil || e == nil => false",
       "!arith.IsValidNatModN(nMod, S, T) => false",
       "p.n.ExpI(p.s, a)",
       "p.n.ExpI(p.t, b)",
       "sa.ModMul(sa, tb, nMod)",
       "p.n.ExpI(T, e)",
       "te.ModMul(te, S, nMod)",
       "lhs.Eq(rhs)" ] := rfl

theorem gen_pedersenValidate : MpsGen.ZK.pedersenValidate =
    [ "n == nil || s == nil || t == nil => ErrNilFields",
       "!arith.IsValidNatModN(n, s, t) => ErrNotValidModN",
       "_, eq, _ := s.Cmp(t); eq == 1 => ErrSEqualT" ] := rfl

theorem gen_paillierEncWithNonce : MpsGen.ZK.paillierEncWithNonce =
    [ "nHalf.Rsh(nHalf, 1, -1)",
       "mAbs.Cmp(nHalf)",
       "if gt, _, _ := mAbs.Cmp(nHalf); gt == 1: panic(\"paillier.Encrypt: tried to encrypt message outside of range [-(N-1)/2, …, (N-1)/2]\")",
       "pk.nSquared.ExpI(pk.nPlusOne, m)",
       "pk.nSquared.Exp(nonce, pk.nNat)",
       "c.ModMul(c, rhoN, pk.nSquared.Modulus)" ] := rfl

theorem gen_paillierValidateCiphertexts : MpsGen.ZK.paillierValidateCiphertexts =
      [ "ct == nil || ct.c == nil => false",
       "lt != 1 => false",
       "ct.c.IsUnit(pk.nSquared.Modulus) != 1 => false" ] := rfl

theorem gen_ciphertextOps : MpsGen.ZK.ciphertextOps =
    [ "Add: ct2 == nil => ct; ct.c.ModMul(ct.c, ct2.c, pk.nSquared.Modulus)",
       "Mul: k == nil => ct; pk.nSquared.ExpI(ct.c, k)",
       "Randomize: pk.nSquared.Exp(nonce, pk.nNat); ct.c.ModMul(ct.c, tmp, pk.nSquared.Modulus)",
       "Equal: ct.c.Eq(ctA.c)" ] := rfl

theorem gen_params : MpsGen.ZK.params =
    [ "SecParam = 256",
       "SecBytes = SecParam / 8",
       "OTParam = 128",
       "OTBytes = OTParam / 8",
       "StatParam = 80",
       "ZKModIterations = 12",
       "L = 1 * SecParam",
       "LPrime = 5 * SecParam",
       "Epsilon = 2 * SecParam",
       "LPlusEpsilon = L + Epsilon",
       "LPrimePlusEpsilon = LPrime + Epsilon",
       "BitsIntModN = 8 * SecParam",
       "BytesIntModN = BitsIntModN / 8",
       "BitsBlumPrime = 4 * SecParam",
       "BitsPaillier = 2 * BitsBlumPrime",
       "BytesPaillier = BitsPaillier / 8",
       "BytesCiphertext = 2 * BytesPaillier" ] := rfl


/-- the constants of `internal/params` the model computes with -/
theorem params_values : SecParam = 256 ∧ StatParam = 80 ∧ L = 256 ∧ LPrime = 1280 ∧ Epsilon = 512 ∧
    LPlusEpsilon = 768 ∧ LPrimePlusEpsilon = 1792 ∧ BitsIntModN = 2048 ∧ BytesIntModN = 256 ∧ BytesCiphertext = 512 ∧
    ScalarBits = 256 ∧ SafeScalarBytes = 32 := by decide

example : isInIntervalLEps (some 0) = true ∧ isInIntervalLEps (some (-5)) = true :=
  ⟨(inBits_iff 768 0).2 (Nat.two_pow_pos 768),
   (inBits_iff 768 (-5)).2 (Nat.lt_of_lt_of_le (by decide : 5 < 2 ^ 3) (Nat.pow_le_pow_right (by decide) (by decide)))⟩
example : (2 : Int) ^ 768 = ((2 : Nat) ^ 768 : Nat) := by rw [Nat.cast_pow, Nat.cast_ofNat]
/-- `±2^768` is refused, `2^768 - 1` accepted -/
example : ¬ (((2 : Nat) ^ 768 : Nat) : Int).natAbs < 2 ^ 768 := by
  rw [Int.natAbs_natCast]; exact Nat.lt_irrefl _
example : (((2 : Nat) ^ 768 - 1 : Nat) : Int).natAbs < 2 ^ 768 := by
  rw [Int.natAbs_natCast]; exact Nat.sub_lt (Nat.two_pow_pos 768) (by decide)
example : ∃ w, encWithNonce 15 8 2 = .error w := unchecked_response_panics 15 8 2 (by decide)
example : (HV.nat (some [1, 2])).WF ∧ (HV.tv (.ct 5)).WF ∧ (HV.tv (.point (List.replicate 33 2))).WF := by
  refine ⟨?_, ⟨?_, rfl⟩, ⟨?_, rfl⟩⟩
  · show [1, 2].length < 2 ^ 64; decide
  · show 5 < 256 ^ 512; exact Nat.lt_of_lt_of_le (by decide : 5 < 256 ^ 1) (Nat.pow_le_pow_right (by decide) (by decide))
  · show (List.replicate 33 (2 : UInt8)).length = 33; decide
example : structOnly Enc.sel = true ∧ structOnly Affg.sel = true ∧ structOnly Fac.sel = true := by decide
example : encodeHVs [HV.nat (some [1, 2]), HV.tv (.bytes [7])] =
    some [⟨natDomain, [1, 2]⟩, ⟨str "[]byte", [7]⟩] := by decide

end Mps.C10
