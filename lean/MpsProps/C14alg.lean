import MpsProofs.AlgebraSharing
import Mathlib.Algebra.Field.ZMod
/-
  C14 (algebra layer) — derivation (`Derive` / BIP-32 tweak) of a sharing gives a sharing of the child key.
-/
namespace Mps.C14alg
open Mps.Alg

variable {F G : Type} [Field F] [AddCommGroup G] [Module F G] (g : G) {ι : Type} [DecidableEq ι]

/-- cmp `Config.Derive`, frost `Config.Derive`: every party adds the SAME
    tweak `a` to its Shamir share and `a·g` to every public table entry. For every reconstruction list S
    (non-empty, distinct non-zero nodes): the new shares interpolate to (old secret) + a — because the
    Lagrange coefficients sum to 1 —, the new table to (old key) + a·g, and share·g = table entry is kept. -/
theorem derive_is_sharing (S : List ι) (x : ι → F) (hN : Nodes S x) (hne : S ≠ []) (sh : ι → F) (pub : ι → G) (a : F) :
    reconstruct (lawful g : Ops F G) S x (fun i => deriveShare (lawful g : Ops F G) (sh i) a) =
        deriveShare (lawful g : Ops F G) (reconstruct (lawful g : Ops F G) S x sh) a ∧
    reconstructG (lawful g : Ops F G) S x (fun i => derivePublic (lawful g : Ops F G) (pub i) a) =
        derivePublic (lawful g : Ops F G) (reconstructG (lawful g : Ops F G) S x pub) a ∧
    (∀ i, actBase (lawful g : Ops F G) (sh i) = pub i →
      actBase (lawful g : Ops F G) (deriveShare (lawful g : Ops F G) (sh i) a) =
        derivePublic (lawful g : Ops F G) (pub i) a) := by
  simp only [alg]
  exact ⟨by rw [reconstruct_add, reconstruct_const g hN hne], by rw [reconstructG_add, reconstructG_const g hN hne],
    fun i h => by rw [add_smul, h]⟩

/-- a derivation path of ANY length is one derivation by the sum of its tweaks
    (`deriveSharePath_lawful`, `derivePublicPath_lawful`) — so the result is a sharing of sk + Σ path, with
    key + (Σ path)·g. -/
theorem derive_compose (S : List ι) (x : ι → F) (hN : Nodes S x) (hne : S ≠ []) (sh : ι → F) (pub : ι → G)
    (path : List F) :
    reconstruct (lawful g : Ops F G) S x (fun i => deriveSharePath (lawful g : Ops F G) (sh i) path) =
        reconstruct (lawful g : Ops F G) S x sh + path.sum ∧
    reconstructG (lawful g : Ops F G) S x (fun i => derivePublicPath (lawful g : Ops F G) (pub i) path) =
        reconstructG (lawful g : Ops F G) S x pub + path.sum • g ∧
    (∀ i, actBase (lawful g : Ops F G) (sh i) = pub i →
      actBase (lawful g : Ops F G) (deriveSharePath (lawful g : Ops F G) (sh i) path) =
        derivePublicPath (lawful g : Ops F G) (pub i) path) := by
  simpa only [alg] using derive_is_sharing g S x hN hne sh pub path.sum

theorem derive_path_append (s : F) (P : G) (p q : List F) :
    deriveSharePath (lawful g : Ops F G) s (p ++ q) =
        deriveSharePath (lawful g : Ops F G) (deriveSharePath (lawful g : Ops F G) s p) q ∧
    derivePublicPath (lawful g : Ops F G) P (p ++ q) =
        derivePublicPath (lawful g : Ops F G) (derivePublicPath (lawful g : Ops F G) P p) q := by
  unfold deriveSharePath derivePublicPath
  exact ⟨List.foldl_append .., List.foldl_append ..⟩

set_option linter.unusedSectionVars false in -- the `[DecidableEq ι]` of the `variable` line is not needed here
/-- deriving then refreshing = refreshing then deriving, for every party's
    share and every table entry (the tweak does not depend on the epoch: the group key, hence the
    BIP-32 input, is unchanged by a refresh — `C08alg.refresh_preserves_group_key`). -/
theorem derive_commutes_refresh (x : ι → F) (sh : ι → F) (op : RefreshOp ι F) (a : F) (i : ι)
    (P D : G) :
    applyRefresh g x (fun k => deriveShare (lawful g : Ops F G) (sh k) a) op i =
        deriveShare (lawful g : Ops F G) (applyRefresh g x sh op i) a ∧
    derivePublic (lawful g : Ops F G) P a + D = derivePublic (lawful g : Ops F G) (P + D) a := by
  simp only [applyRefresh_eq, alg]
  exact ⟨by ring, by abel⟩

/-- What an additive sharing needs: exactly ONE party adds the tweak. -/
theorem doerner_derive_one_adds_ok (skR skS a : F) (X : G) (h : (skR + skS) • g = X) :
    (deriveShare (lawful g : Ops F G) skR a + skS) • g = derivePublic (lawful g : Ops F G) X a := by
  simp only [alg, ← h]
  module

/-- `ConfigReceiver.Derive` adds the tweak, `ConfigSender.Derive` keeps its share, both add a·g to the public key
    and store the new chain key. For ANY two halves of one key (shares skR, skS with (skR+skS)·g = X held by both), any tweak a and any
    chain key ck: both derived configs hold the SAME public key X + a·g — the child key —, the derived
    shares sum to sk + a and open that key, and both carry exactly the chain key ck. -/
theorem doerner_derive_is_sharing (cR cS : DoernerCfg F G) (a : F) (ck : List UInt8)
    (hpub : cR.pub = cS.pub) (h : (cR.secretShare + cS.secretShare) • g = cR.pub) :
    let dR := doernerDeriveReceiver (lawful g : Ops F G) cR a ck
    let dS := doernerDeriveSender (lawful g : Ops F G) cS a ck
    dR.pub = derivePublic (lawful g : Ops F G) cR.pub a ∧ dS.pub = dR.pub ∧
    dR.secretShare + dS.secretShare = cR.secretShare + cS.secretShare + a ∧
    (dR.secretShare + dS.secretShare) • g = dR.pub ∧
    dR.chainKey = some ck ∧ dS.chainKey = some ck := by
  simp only [alg, ← hpub, ← h, true_and, and_true]
  exact ⟨by ring, by module⟩

/-- derivation paths of ANY length (each step a tweak with the chain key of that
    step): the two halves stay one consistent additive sharing, of sk + Σ tweaks under X + (Σ tweaks)·g, and both
    carry the chain key of the LAST step (the original one for the empty path). -/
theorem doerner_derive_compose (cR cS : DoernerCfg F G) (path : List (F × List UInt8))
    (hpub : cR.pub = cS.pub) (h : (cR.secretShare + cS.secretShare) • g = cR.pub) (hck : cR.chainKey = cS.chainKey) :
    let d := doernerDerivePath (lawful g : Ops F G) cR cS path
    d.1.pub = cR.pub + (path.map Prod.fst).sum • g ∧ d.2.pub = d.1.pub ∧
    d.1.secretShare + d.2.secretShare = cR.secretShare + cS.secretShare + (path.map Prod.fst).sum ∧
    (d.1.secretShare + d.2.secretShare) • g = d.1.pub ∧
    d.1.chainKey = d.2.chainKey ∧
    d.1.chainKey = (match path.getLast? with | some step => some step.2 | none => cR.chainKey) := by
  simp only [doernerDerivePath_lawful, ← hpub, ← hck, ← h, true_and]
  exact ⟨by ring, by module, rfl⟩

/-- `doernerDeriveOld` (both `Derive`s of /repo before commit 4df2a70): BOTH add the tweak, the public key gets ONE
    tweak. The derived pair is consistent (sum of shares · g = public key) IFF a·g = 0 — in a prime-order group: iff
    the tweak is 0. -/
theorem doerner_derive_old_consistent_iff (cR cS : DoernerCfg F G) (a : F) (ckR ckS : List UInt8)
    (hpub : cR.pub = cS.pub) (h : (cR.secretShare + cS.secretShare) • g = cR.pub) :
    let dR := doernerDeriveOld (lawful g : Ops F G) cR a ckR
    let dS := doernerDeriveOld (lawful g : Ops F G) cS a ckS
    (dR.pub = dS.pub) ∧ ((dR.secretShare + dS.secretShare) • g = dR.pub ↔ a • g = 0) := by
  simp only [alg]
  refine ⟨by rw [hpub], ?_⟩
  rw [show (cR.secretShare + a + (cS.secretShare + a)) • g = cR.pub + a • g + a • g by rw [← h]; module]
  exact add_eq_left

theorem doerner_derive_old_wrong_of_ne (cR cS : DoernerCfg F G) (a : F) (ckR ckS : List UInt8)
    (hg : g ≠ 0) (ha : a ≠ 0) (hpub : cR.pub = cS.pub) (h : (cR.secretShare + cS.secretShare) • g = cR.pub) :
    ((doernerDeriveOld (lawful g : Ops F G) cR a ckR).secretShare +
      (doernerDeriveOld (lawful g : Ops F G) cS a ckS).secretShare) • g ≠ (doernerDeriveOld (lawful g : Ops F G) cR a ckR).pub := by
  intro e
  have := ((doerner_derive_old_consistent_iff g cR cS a ckR ckS hpub h).2).mp e
  exact (smul_eq_zero.mp this).elim ha hg

/-- `doernerDeriveOld` returns NO chain key (the struct literal of /repo before 4df2a70 had no `ChainKey`) -/
theorem doerner_derive_old_drops_chain_key (c : DoernerCfg F G) (a : F) (ck : List UInt8) :
    (doernerDeriveOld (lawful g : Ops F G) c a ck).chainKey = none := rfl

local instance : Fact (Nat.Prime 5) := ⟨by decide⟩

/-- concrete witness in the field with 5 elements (G = F, g = 1): shares 1 and 2 (key 3), tweak 1.
    `doernerDeriveOld` gives shares 2 and 3 — a sharing of 0 — and
    the public key 4: the derived shares do not match the derived public key, while the prescribed child key
    IS 4 = 3 + 1. `doernerDeriveReceiver` / `doernerDeriveSender` give shares 2 and 2: a sharing of 4. -/
theorem doerner_derive_both_add_wrong :
    let O : Ops (ZMod 5) (ZMod 5) := lawful (1 : ZMod 5)
    let cR : DoernerCfg (ZMod 5) (ZMod 5) := ⟨1, 3, some []⟩
    let cS : DoernerCfg (ZMod 5) (ZMod 5) := ⟨2, 3, some []⟩
    actBase O (O.add cR.secretShare cS.secretShare) = cR.pub ∧
    actBase O (O.add (doernerDeriveOld O cR 1 []).secretShare (doernerDeriveOld O cS 1 []).secretShare) = 0 ∧
    (doernerDeriveOld O cR 1 []).pub = 4 ∧
    actBase O (O.add (doernerDeriveOld O cR 1 []).secretShare (doernerDeriveOld O cS 1 []).secretShare)
      ≠ (doernerDeriveOld O cR 1 []).pub ∧
    actBase O (O.add (doernerDeriveReceiver O cR 1 []).secretShare (doernerDeriveSender O cS 1 []).secretShare)
      = (doernerDeriveReceiver O cR 1 []).pub := by
  decide

/-- the chain key `EmptyRID() ⊕ c₁ ⊕ … ⊕ cₙ` does not depend on the order in which a
    party folds in the (decommitted, echo-protected) contributions: every party holding the same multiset of
    contributions computes the same chain key — the value the FROST keygen result carries (`frostResultChainKey`). -/
theorem chainkey_xor_agree (cs ds : List Bytes) (h : cs.Perm ds) :
    chainKeyOf cs = chainKeyOf ds ∧ frostResultChainKey cs = frostResultChainKey ds ∧
      frostResultChainKey cs = some (chainKeyOf cs) := by
  have hk := chainKeyOf_perm cs ds h
  exact ⟨hk, by unfold frostResultChainKey; rw [hk], rfl⟩

/-- the result of a chain-key XOR over 32-byte contributions is 32 bytes long (what `Derive` insists on) -/
theorem chainkey_length (cs : List Bytes) (h : ∀ c ∈ cs, c.length = 32) : (chainKeyOf cs).length = 32 :=
  chainKeyOf_length cs h

/-- `frostResultChainKeyOld` (frost keygen round 3 of /repo before commit eba3819): no chain key in the result, whatever
    is contributed -/
theorem frost_chainkey_old_dropped (cs : List Bytes) : frostResultChainKeyOld cs = none := rfl

/-- the chain-key rule of every `Derive`: an explicit 32-byte chain key is taken as is; with none given the
    old one is kept (and must be 32 bytes long) -/
theorem derive_chain_rule (old : Option Bytes) (new : Bytes) (hnew : new.length = 32) :
    deriveChainRule old (some new) = some new ∧
    (∀ o : Bytes, o.length = 32 → deriveChainRule (some o) none = some o ∧ deriveChainRule (some o) (some []) = some o) ∧
    deriveChainRule none none = none := by
  refine ⟨?_, ?_, ?_⟩
  · simp [deriveChainRule, hnew]
  · intro o ho; simp [deriveChainRule, ho]
  · simp [deriveChainRule]

/-! ### non-vacuity -/
example : Nodes (F := ℚ) [0, 1, 2] (fun i : ℕ => (i : ℚ) + 1) ∧ ([0, 1, 2] : List ℕ) ≠ [] :=
  ⟨Nodes.natCast_add_one (by decide), by decide⟩

end Mps.C14alg
