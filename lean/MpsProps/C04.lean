import MpsProps.Anchors.C04
import MpsProofs.Blame
import MpsProps.Src.SrcCmpKeygen
import MpsProps.Src.SrcCmpSign
import MpsProps.Src.SrcCmpPresign
import MpsProps.Src.SrcFrostKeygen
import MpsProps.Src.SrcFrostSign
import MpsProps.HandlerSrc
import MpsProps.C04Byz
import MpsGen.Session
/-
  C04 — Blame is sound: who a handler names, and why (handler level, all scripts and histories).
  The protocol-specific part (CMP presign abort identification) is decided by the suites `sess-tamper` and
  `sess-presign-abort`, not here.
-/
namespace Mps.C04
open Mps Mps.Handler

/-- Provenance of a message-failure verdict, over ALL scripts and ALL call histories: whenever a handler's
    Result is an error blaming `f` for a failed message, one of its queues holds a message from `f` for the
    round the handler is in that violates the protocol in that round: it is of a kind the round does not
    expect, it does not decode, or its content fails the round's verification / storing. -/
theorem blame_provenance (H : Bytes → Bytes) (sc : Script) (calls : List Call) :
    BlameOk (run H sc calls) := blameOk_run H sc calls

/-- No message an honest handler of the script ever emits can serve as the witness of a blame: if round
    numbers identify rounds (no two script rounds share a number), a message that deviates in the round
    the blaming handler is in is not among the messages any handler state of that script sends. Hence
    (channels being authenticated) an honest participant is never named for a message failure. -/
theorem honest_never_witness (t s' : State) (ix : IdxOk t) (hc : t.cur ≠ 0)
    (hnodup : (t.sc.rounds.map (·.num)).Nodup) (m : Msg) (hm : m.rnd = t.cur) (hd : Deviates (curSpec t) m)
    (nx : RoundSpec) (hnx : nx ∈ t.sc.rounds) : m ∉ emitFor s' nx :=
  deviates_not_emitted t s' ix hc hnodup m hm hd nx hnx

/-- an abort notice names its sender and nobody else: the verdict `peerAbort f` can only come from a
    round-0 message whose sender field is `f` (a peer relaying a notice is reported as its origin) -/
theorem notice_names_its_sender (H : Bytes → Bytes) (s : State) (m : Msg) (l : Live s) (f : Bytes)
    (h : (accept H s m).err = some (.peerAbort f)) : m.rnd = 0 ∧ m.frm = f :=
  accept_peerAbort H s m l f h

/-- A sender is blamed for a failing message only when that message shows the SAME view of the previous
    round's broadcasts as ours: a message computed on another view (somebody equivocated) is answered with the
    culprit-less "broadcast verification failed", never verified against our view. This is what keeps an
    honest sender from being named when a third party equivocated. -/
theorem blamed_only_under_same_view (s : State) (m : Msg) :
    (verifyMessage s m = .bad → sameView s m = true) ∧ (verifyBroadcastMessage s m = .bad → sameView s m = true) :=
  ⟨fun h => (verifyMessage_bad h).1, fun h => (verifyBroadcastMessage_bad h).1⟩

/-- the culprit lists reported by `Result()` per kind of error -/
theorem culprits_table (sc : Script) :
    culpritsOf sc .echoMismatch = [] ∧ culpritsOf sc .finalizeErr = [sc.self] ∧ culpritsOf sc .stopped = [sc.self] ∧
    (∀ f, culpritsOf sc (.msgFail f) = [f]) ∧ (∀ f, culpritsOf sc (.peerAbort f) = [f]) ∧
    (∀ cs, culpritsOf sc (.protoAbort cs) = cs) := ⟨rfl, rfl, rfl, fun _ => rfl, fun _ => rfl, fun _ => rfl⟩

/-- in the source, the view check precedes decoding, verification and storing, and a view mismatch aborts
    without naming anybody -/
theorem gen_echo_before_verify : MpsGen.Session.verifyOrder =
    [ "h.sameBroadcastView(msg)", "getRoundMessage(msg, r)", "r.(round.BroadcastRound).StoreBroadcastMessage(roundMsg)",
      "h.verifyMessage(msg)", "h.sameBroadcastView(msg)", "getRoundMessage(msg, r)", "r.VerifyMessage(roundMsg)",
      "r.StoreMessage(roundMsg)", "errors.Is(err, errBroadcastVerification)",
      "if errors.Is(err, errBroadcastVerification): h.abort(err)", "h.abort(err, from)" ] := rfl

end Mps.C04
