import MpsProofs.Byz
import MpsProps.C06Byz
/-
  C04 at system level — an honest participant is never blamed.

  Model: as in MpsProps/C06Byz.lean (Mps/Byz.lean): session `base`, ONE deviating participant `x` whose messages are
  arbitrary, authenticated channels, `ByzCausal` schedules. Lemmas in MpsProofs/Byz.lean. The handler-level facts are
  in MpsProps/C04.lean (`blame_provenance`, `honest_never_witness`, `notice_names_its_sender`, …).

  In the scripted protocol of the model a message fails verification iff it is of a kind its round does not expect,
  does not decode, or carries a failure flag; honest messages never do (also when they were computed on another view
  of the previous broadcast round: then the recipient's `sameBroadcastView` check, which comes first, answers with
  the culprit-less `echoMismatch`, see `Mps.C04.blamed_only_under_same_view`).
-/
namespace Mps.C04Byz
open Mps Mps.Handler Mps.System

/-- what an honest party emits (the per-message `Honest`-style facts of MpsProofs/Honest.lean WITHOUT the echo-stamp
    clause, which fails under equivocation): every emitted message is the abort notice — and then the party has an
    error — or a message of a round of the script after the first that carries the party's name, decodes, carries no
    flag, and is of a kind its round expects. (Uniqueness per (round, sender, kind) is not needed below.) -/
theorem honest_emissions (H : Bytes → Bytes) (base : Script) (ok : SessionOk base) (sched : Sched) (q : Bytes) (m : Msg)
    (hm : m ∈ ((Sys.run H base sched) q).out) :
    (m.rnd = 0 ∧ ((Sys.run H base sched) q).err.isSome = true ∧ m = noticeOf (scriptFor base q)) ∨
    (∃ nx i, 1 ≤ i ∧ base.rounds[i]? = some nx ∧ m.rnd = nx.num ∧ 2 ≤ nx.num ∧ m.frm = q ∧
      (∃ c, m.dec = some c ∧ c.f = 0) ∧ (m.bcast = true → nx.recvB = true) ∧ (m.bcast = false → nx.recvP = true)) := by
  rcases honest_out ok sched q m hm with h | ⟨s', nx, i, hi, hnx, h2, hmem, hs'⟩
  · exact Or.inl h
  · obtain ⟨a, _, c, d, e, f⟩ := emitFor_fields s' nx m hmem
    exact Or.inr ⟨nx, i, hi, hnx, a, h2, by rw [c, hs']; rfl, d, e, f⟩

/-- HONEST NEVER BLAMED (explicit form). For every hash `H`, session `base` (`SessionOk`), deviating party `x`,
    Byzantine schedule and honest party `p`: the verdict of `p` is never a message failure of an honest party, never
    a protocol abort naming an honest party, never `p`'s own `Finalize` failure or a stop; and it is the relayed
    notice of an honest party `q` only if `q ≠ p` has itself aborted: its `out` holds its abort notice and it has an
    error (for the kinds of that error see `relayed_notice_chain` and `abort_root_cause`). -/
theorem honest_never_named_directly (H : Bytes → Bytes) (base : Script) (ok : SessionOk base) (x : Bytes) (sched : Sched)
    (hc : ByzCausal H base x sched = true) (p : Bytes) (hp : p ∈ honestIds base x) :
    (∀ q ∈ honestIds base x, ((Sys.run H base sched) p).err ≠ some (.msgFail q)) ∧
    (∀ cs, ((Sys.run H base sched) p).err = some (.protoAbort cs) → ∀ q ∈ honestIds base x, q ∉ cs) ∧
    (∀ q ∈ honestIds base x, ((Sys.run H base sched) p).err = some (.peerAbort q) →
      q ≠ p ∧ noticeOf (scriptFor base q) ∈ ((Sys.run H base sched) q).out ∧
      ((Sys.run H base sched) q).err.isSome = true) ∧
    ((Sys.run H base sched) p).err ≠ some .finalizeErr ∧ ((Sys.run H base sched) p).err ≠ some .stopped := by
  have noSelf : NoSelfErr ((Sys.run H base sched) p) := party_run (run_noSelfErr (sessionOk_for ok p)) sched
  refine ⟨fun q hq => honest_not_msgFail ok sched hc p q hp hq,
    fun cs he q hq => honest_not_accused ok sched hc p q hp hq cs he, ?_, noSelf⟩
  intro q hq he
  rcases honest_peerAbort ok sched hc p q he with h | ⟨_, h2, h3, h4⟩
  · exact absurd h (mem_honestIds.mp hq).2
  · exact ⟨h2, h3, h4⟩

/-- THE CHAIN. The verdict of an honest party is a verdict of its own that names nobody but `x` (`primaryErr`: a
    failed message of `x`, a protocol abort naming only `x`, a notice sent by `x`, or the culprit-less echo mismatch),
    or the relayed notice of ANOTHER honest party that has aborted (to which the same applies in turn) -/
theorem relayed_notice_chain (H : Bytes → Bytes) (base : Script) (ok : SessionOk base) (x : Bytes) (sched : Sched)
    (hc : ByzCausal H base x sched = true) (p : Bytes) (hp : p ∈ honestIds base x) (e : ErrKind)
    (he : ((Sys.run H base sched) p).err = some e) :
    primaryErr x e = true ∨
    ∃ q ∈ honestIds base x, q ≠ p ∧ e = .peerAbort q ∧ noticeOf (scriptFor base q) ∈ ((Sys.run H base sched) q).out ∧
      ((Sys.run H base sched) q).err.isSome = true :=
  honest_error_kinds ok sched hc p hp e he

/-- a verdict of one's own names nobody but `x` -/
theorem primary_names_only_x (x : Bytes) (sc : Script) (e : ErrKind) (h : primaryErr x e = true) :
    ∀ c ∈ culpritsOf sc e, c = x := by
  intro c hc
  cases e with
  | msgFail f => exact List.mem_singleton.mp hc ▸ beq_iff_eq.mp h
  | peerAbort f => exact List.mem_singleton.mp hc ▸ beq_iff_eq.mp h
  | echoMismatch => cases hc
  | finalizeErr => cases h
  | stopped => cases h
  | protoAbort cs => exact beq_iff_eq.mp (List.all_eq_true.mp h c hc)

/-- HONEST NEVER BLAMED (culprit-list form). The culprit list `culpritsOf (scriptFor base p) e` reported by the
    `Result()` of an honest party `p` contains an honest id `q` only as the sender of a relayed notice: then the
    verdict is `peerAbort q`, `q ≠ p`, and `q` itself has aborted (notice in its `out`, error set). -/
theorem honest_never_blamed (H : Bytes → Bytes) (base : Script) (ok : SessionOk base) (x : Bytes) (sched : Sched)
    (hc : ByzCausal H base x sched = true) (p : Bytes) (hp : p ∈ honestIds base x) (e : ErrKind)
    (he : ((Sys.run H base sched) p).err = some e) (q : Bytes) (hq : q ∈ honestIds base x)
    (hmem : q ∈ culpritsOf (scriptFor base p) e) :
    e = .peerAbort q ∧ q ≠ p ∧ noticeOf (scriptFor base q) ∈ ((Sys.run H base sched) q).out ∧
      ((Sys.run H base sched) q).err.isSome = true := by
  rcases honest_error_kinds ok sched hc p hp e he with h | ⟨q', _, h2, h3, h4, h5⟩
  · exact absurd (primary_names_only_x x _ e h q hmem) (mem_honestIds.mp hq).2
  · subst h3
    simp only [culpritsOf, List.mem_singleton] at hmem
    subst hmem
    exact ⟨rfl, h2, h4, h5⟩

/-- ROOT CAUSE. Whenever some honest party has aborted, some honest party has aborted with a verdict of its own
    that names nobody but `x`: every chain of relayed notices among the honest parties starts at such a verdict
    (equivalently: as long as no honest party has such a verdict, no honest party has any error) -/
theorem abort_root_cause (H : Bytes → Bytes) (base : Script) (ok : SessionOk base) (x : Bytes) (sched : Sched)
    (hc : ByzCausal H base x sched = true)
    (h : ∃ p ∈ honestIds base x, ((Sys.run H base sched) p).err.isSome = true) :
    ∃ p ∈ honestIds base x, ∃ e, ((Sys.run H base sched) p).err = some e ∧ primaryErr x e = true :=
  abort_root ok sched hc h

/-! ### Non-vacuity: the 3-party session of `C06Byz.Ex` (round 2: broadcast, round 3: p2p), party `[3]` deviates -/

namespace Ex
open Mps.C06Byz.Ex

/-- `[3]` equivocates in round 2; `[2]` sees the mismatch and aborts; its notice reaches `[1]` first -/
def schedN : Sched :=
  [([1], hb [2]), ([1], e1), ([2], hb [1]), ([2], e2), ([2], hp3 [1] [2] [90, 78]), ([1], noticeOf (scriptFor sc [2]))]
/-- `[3]` sends `[1]` a broadcast whose content fails `StoreBroadcastMessage`, and `[2]` an abort notice -/
def schedF : Sched :=
  [([1], { e1 with dec := some ⟨3002, fFailStoreB⟩ }), ([2], { noticeOf (scriptFor sc [3]) with data := some [1, 2, 3] })]
/-- `[3]` sends `[1]` a broadcast that makes the round's `Finalize` accuse its sender, `[2]` an undecodable one -/
def schedA : Sched :=
  [([1], { e1 with dec := some ⟨3002, fAccuse⟩ }), ([1], hb [2]), ([2], { e2 with dec := none })]

/-- everything below about `schedN`, and about `schedF` and `schedA`, each in ONE kernel evaluation of the schedule -/
theorem evalN : ByzCausal Hx sc [3] schedN = true ∧ ((Sys.run Hx sc schedN) [2]).err = some .echoMismatch ∧
    ((Sys.run Hx sc schedN) [1]).err = some (.peerAbort [2]) := by decide +kernel
theorem evalFA : ByzCausal Hx sc [3] schedF = true ∧ ByzCausal Hx sc [3] schedA = true ∧
    ((Sys.run Hx sc schedF) [1]).err = some (.msgFail [3]) ∧ ((Sys.run Hx sc schedF) [2]).err = some (.peerAbort [3]) ∧
    ((Sys.run Hx sc schedA) [1]).err = some (.protoAbort [[3]]) ∧ ((Sys.run Hx sc schedA) [2]).err = some (.msgFail [3]) := by
  decide

theorem causalN : ByzCausal Hx sc [3] schedN = true := evalN.1
theorem causalF : ByzCausal Hx sc [3] schedF = true := evalFA.1
theorem causalA : ByzCausal Hx sc [3] schedA = true := evalFA.2.1

-- equivocation: both honest parties end with the culprit-less echo mismatch; nobody is named
set_option maxRecDepth 1000000 in
example : ((Sys.run Hx sc schedE) [1]).err = some .echoMismatch ∧ ((Sys.run Hx sc schedE) [2]).err = some .echoMismatch ∧
    culpritsOf (scriptFor sc [1]) .echoMismatch = [] := ⟨evalE.2.2.2.2.1, evalE.2.2.2.2.2.1, rfl⟩

-- equivocation with a relayed notice: `[2]` has the echo mismatch, `[1]` reports `[2]`'s notice
theorem errsN : ((Sys.run Hx sc schedN) [2]).err = some .echoMismatch ∧
    ((Sys.run Hx sc schedN) [1]).err = some (.peerAbort [2]) := evalN.2

/-- every hypothesis of `honest_never_blamed` holds (with an honest id in the culprit list) -/
example : ErrKind.peerAbort [2] = .peerAbort [2] ∧ ([2] : Bytes) ≠ [1] ∧
    noticeOf (scriptFor sc [2]) ∈ ((Sys.run Hx sc schedN) [2]).out ∧ ((Sys.run Hx sc schedN) [2]).err.isSome = true :=
  honest_never_blamed Hx sc session_ok [3] schedN causalN [1] honest12.1 (.peerAbort [2]) errsN.2 [2] honest12.2 (by decide)

/-- … of `relayed_notice_chain` and of `abort_root_cause` -/
example : primaryErr [3] .echoMismatch = true ∨
    ∃ q ∈ honestIds sc [3], q ≠ [2] ∧ ErrKind.echoMismatch = .peerAbort q ∧
      noticeOf (scriptFor sc q) ∈ ((Sys.run Hx sc schedN) q).out ∧ ((Sys.run Hx sc schedN) q).err.isSome = true :=
  relayed_notice_chain Hx sc session_ok [3] schedN causalN [2] honest12.2 .echoMismatch errsN.1
example : ∃ p ∈ honestIds sc [3], ∃ e, ((Sys.run Hx sc schedN) p).err = some e ∧ primaryErr [3] e = true :=
  abort_root_cause Hx sc session_ok [3] schedN causalN ⟨[1], honest12.1, by rw [errsN.2]; rfl⟩

/-- … of `honest_emissions` (the notice of `[2]`) and of `primary_names_only_x` -/
example := honest_emissions Hx sc session_ok schedN [2] (noticeOf (scriptFor sc [2]))
  (honest_never_blamed Hx sc session_ok [3] schedN causalN [1] honest12.1 (.peerAbort [2]) errsN.2 [2] honest12.2
    (by decide)).2.2.1
example : ∀ c ∈ culpritsOf (scriptFor sc [1]) (.protoAbort [[3]]), c = [3] :=
  primary_names_only_x [3] (scriptFor sc [1]) (.protoAbort [[3]]) (by decide)

/-- … and of `honest_never_named_directly` (under equivocation and under an accusation) -/
example := honest_never_named_directly Hx sc session_ok [3] schedE causalE [1] honest12.1
example := honest_never_named_directly Hx sc session_ok [3] schedA causalA [2] honest12.2

-- the verdicts against the cheater: failed message, notice, protocol abort, undecodable message
set_option maxRecDepth 1000000 in
example : ((Sys.run Hx sc schedF) [1]).err = some (.msgFail [3]) ∧ ((Sys.run Hx sc schedF) [2]).err = some (.peerAbort [3]) ∧
    ((Sys.run Hx sc schedA) [1]).err = some (.protoAbort [[3]]) ∧ ((Sys.run Hx sc schedA) [2]).err = some (.msgFail [3]) :=
  evalFA.2.2
end Ex

end Mps.C04Byz
