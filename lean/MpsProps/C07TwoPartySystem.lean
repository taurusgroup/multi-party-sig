import MpsProofs.System2
import MpsProps.C07TwoParty
/-
  C07 (two-party handler) — two-party composition.

  MpsProps/C07TwoParty.lean is about ONE `TwoPartyHandler` that is given an `Honest2` message set. Here: a session
  of the TWO handlers of a two-party protocol (`Mps.System2`: the pair of `State2`, `Sys2.deliver p m` = party `p`
  accepts `m`; `L` is built with `leader = true` and runs `advance` in its constructor, `F` with `leader = false`
  and does not move before its first `Accept`). A schedule is a list of (recipient, message) pairs; it is `Causal2`
  when every delivered message is, at the time of its delivery, in the `out` list of the OTHER party's handler —
  any order, any repetition, any interleaving, any delay (the handler has neither a stale nor a duplicate filter).

  Side conditions (both decidable, both in Mps/System2.lean, every field documented there): `Session2Ok scL scF` for
  (a), (b), (c) — the two scripts talk to each other: what a round other than the last one sends is acceptable to the
  other handler and meant for one of its receiving rounds; `Session2Live scL scF` in addition for (d) — nobody waits
  forever: round numbers increase, every receiving round is fed by an earlier sending round, the follower is woken.
  Both script shapes of the harness (`genScript2` in harness/main/suite_twoparty.go) satisfy both predicates
  whenever the session can complete at all: `ExAlt` (alternating) and `ExSym` (the symmetric shape of
  protocols/example) below. `Cex` has kernel-evaluated counterexamples for the non-obvious conditions.
  Lemmas in MpsProofs/System2.lean.
-/
namespace Mps.C07.TwoParty.Sys
open Mps.Handler Mps.TwoParty Mps.System2

/-- the state of a party in the session is its handler run on exactly the messages delivered to it (this ties the
    session model to the single-handler theorems of MpsProps/C07TwoParty.lean; no hypothesis) -/
theorem party_state_is_handler_run2 (scL scF : Script2) (sched : Sched2) (p : Side) :
    (Sys2.run scL scF sched).get p = run2 (scriptOf scL scF p) ((delivered2 sched p).map Call2.accept) :=
  run_get scL scF sched p

/-- (a) TWO-PARTY COMPOSITION. For every pair of scripts with `Session2Ok`, EVERY causal schedule and each party
    `p`: the list of all messages the other party has emitted so far is an `Honest2` message set for `p`'s script -/
theorem emitted_honest2 (scL scF : Script2) (ok : Session2Ok scL scF) (sched : Sched2)
    (hc : Causal2 scL scF sched = true) (p : Side) :
    Honest2 (scriptOf scL scF p) ((Sys2.run scL scF sched).get p.other).out :=
  System2.emitted_honest2 ok sched hc p

/-- what a causal schedule has delivered to `p` is part of what the other party has emitted (no side condition needed:
    `out` only grows): with (a) the hypotheses of `order_independent2` / `honest_delivery_never_blames2` hold for both
    parties -/
theorem delivered_are_emitted2 (scL scF : Script2) (sched : Sched2) (hc : Causal2 scL scF sched = true) (p : Side) :
    ∀ m ∈ delivered2 sched p, m ∈ ((Sys2.run scL scF sched).get p.other).out :=
  delivered_emitted2 sched p _ hc

/-- (a), static form: everything the other party can EVER emit — the closed-form list `idealOut2`: the messages
    `msgOf` of the rounds other than the last one with `send = true`, in script order — is an `Honest2` set for
    `p`, and everything any causal schedule delivers to `p` is in it -/
theorem ideal_honest2 (scL scF : Script2) (ok : Session2Ok scL scF) (p : Side) :
    Honest2 (scriptOf scL scF p) (idealOut2 (scriptOf scL scF p.other)) :=
  (ok.feeds p).honest

theorem delivered_are_ideal2 (scL scF : Script2) (ok : Session2Ok scL scF) (sched : Sched2)
    (hc : Causal2 scL scF sched = true) (p : Side) :
    ∀ m ∈ delivered2 sched p, m ∈ idealOut2 (scriptOf scL scF p.other) :=
  delivered_ideal ok sched hc p

/-- (b) in every state the session reaches under a causal schedule, neither party has an error: no message
    failure, no protocol abort, no peer abort (and no own failure either) -/
theorem no_honest_abort2 (scL scF : Script2) (ok : Session2Ok scL scF) (sched : Sched2)
    (hc : Causal2 scL scF sched = true) (p : Side) : ((Sys2.run scL scF sched).get p).err = none :=
  System2.no_honest_abort2 ok sched hc p

/-- (c) SCHEDULE INDEPENDENCE. Two causal schedules of the whole session — whatever they do at the other party —
    that have delivered the same SET of messages to `p` leave `p` with the same outcome (every field of the state but
    the message store). (The proof uses the causality of the first schedule only: `_c2` is not needed.) -/
theorem schedule_independent2 (scL scF : Script2) (ok : Session2Ok scL scF) (s1 s2 : Sched2)
    (c1 : Causal2 scL scF s1 = true) (_c2 : Causal2 scL scF s2 = true) (p : Side)
    (hsame : ∀ m, m ∈ delivered2 s1 p ↔ m ∈ delivered2 s2 p) :
    outcome2 ((Sys2.run scL scF s1).get p) = outcome2 ((Sys2.run scL scF s2).get p) :=
  outcome2_feq (schedule_feq2 ok s1 s2 c1 p hsame)

/-- (d) COMPLETION. With `Session2Live` in addition: a causal schedule that is fair to the end (`Complete2`:
    everything a party has emitted has been delivered to the other one) leaves BOTH parties ended, without error,
    the channel closed exactly once, with the result `sessionValue2` of their script — a closed formula: the sum over
    the script's rounds that expect input of the scripted value `hv2 ids peer self num` of the peer's message for that
    round; the messages a party has emitted are, in order, the closed-form list `idealOut2` of its script; and the
    set of messages delivered to it is exactly the `idealOut2` of the other script -/
theorem complete_schedule_completes2 (scL scF : Script2) (ok : Session2Ok scL scF) (live : Session2Live scL scF)
    (sched : Sched2) (hc : Causal2 scL scF sched = true)
    (hfair : Complete2 (Sys2.run scL scF sched) sched = true) (p : Side) :
    terminal2 ((Sys2.run scL scF sched).get p) = true ∧ ((Sys2.run scL scF sched).get p).err = none ∧
    ((Sys2.run scL scF sched).get p).result = some (sessionValue2 (scriptOf scL scF p)) ∧
    ((Sys2.run scL scF sched).get p).out = idealOut2 (scriptOf scL scF p) ∧
    ((Sys2.run scL scF sched).get p).closes = 1 ∧
    (∀ m, m ∈ delivered2 sched p ↔ m ∈ idealOut2 (scriptOf scL scF p.other)) :=
  System2.complete_schedule_completes2 ok live sched hc hfair p

/-- the closed formulas, spelled out -/
theorem sessionValue2_eq (sc : Script2) :
    sessionValue2 sc = ((sc.rounds.filter (·.recv)).map fun sp => hv2 sc.ids sc.peer sc.self sp.num).sum := rfl
theorem idealOut2_eq (sc : Script2) :
    idealOut2 sc = ((sc.rounds.dropLast.filter (·.send)).map fun r => msgOf sc r.sendNum) := rfl
theorem hv2_eq (ids : List Bytes) (frm to : Bytes) (n : Nat) :
    hv2 ids frm to n = (ids.idxOf frm + 1) * 1000 + (if to == [] then 0 else (ids.idxOf to + 1) * 10) + n := rfl

/-! ### non-vacuity 1: the ALTERNATING shape (leader: round 1 sends without input, then the even rounds receive;
    follower: the odd rounds receive) — the session of `Mps.C07.TwoParty.Ex`: leader rounds 1, 2, 4, 6, 8,
    follower rounds 1, 3, 5, 7, final round number 8 -/
namespace ExAlt
open Mps.C07.TwoParty.Ex

/-- leader → follower, follower → leader -/
def toF (n : Nat) : Msg := msgOf leadSc n
def toL (n : Nat) : Msg := msgOf follSc n

/-- the strict ping-pong -/
def inorder : Sched2 :=
  [(.F, toF 1), (.L, toL 2), (.F, toF 3), (.L, toL 4), (.F, toF 5), (.L, toL 6), (.F, toF 7)]

/-- NOT in order: repetitions at once (round 1 twice), late re-deliveries (round 1 again while the follower waits in
    round 3, rounds 2 and 4 again while the leader waits in round 6, round 3 again while the follower waits in
    round 7), and deliveries after the end. (In this shape a party sends only after it has received, so under a
    CAUSAL schedule no message can arrive before its round is reached: early arrival is exercised by `ExSym`.) -/
def sched : Sched2 :=
  [(.F, toF 1), (.F, toF 1), (.L, toL 2), (.F, toF 1), (.L, toL 2), (.F, toF 3), (.L, toL 4), (.L, toL 2),
   (.F, toF 5), (.L, toL 4), (.F, toF 3), (.L, toL 6), (.L, toL 2), (.F, toF 7), (.F, toF 1), (.L, toL 6)]

theorem session_ok : Session2Ok leadSc follSc := by decide
theorem session_live : Session2Live leadSc follSc := by decide
/-- what the kernel evaluates about `sched`, in one conjunction (the conjuncts share the states of the two handlers) -/
theorem sched_checked : Causal2 leadSc follSc sched = true ∧ Complete2 (Sys2.run leadSc follSc sched) sched = true ∧
    (Sys2.run leadSc follSc sched).l.result = some 6042 ∧ (Sys2.run leadSc follSc sched).f.result = some 4096 := by
  decide +kernel
theorem sched_causal : Causal2 leadSc follSc sched = true := sched_checked.1
theorem inorder_causal : Causal2 leadSc follSc inorder = true := by decide
/-- round numbers of the messages delivered to the leader / the follower, in the order of delivery -/
theorem sched_not_in_order : (delivered2 sched .L).map (·.rnd) = [2, 2, 4, 2, 4, 6, 2, 6] ∧
    (delivered2 sched .F).map (·.rnd) = [1, 1, 1, 3, 5, 3, 7, 1] := by decide
theorem same_sets : ∀ p, (∀ m ∈ delivered2 sched p, m ∈ delivered2 inorder p) ∧
    (∀ m ∈ delivered2 inorder p, m ∈ delivered2 sched p) := by
  intro p; cases p <;> decide
theorem sched_complete : Complete2 (Sys2.run leadSc follSc sched) sched = true := sched_checked.2.1
/-- a prefix of `sched`: the session is still running (leader waits in round 6, follower in round 5) -/
def part : Sched2 := sched.take 8
theorem part_causal : Causal2 leadSc follSc part = true := causal2_take sched_causal 8

/-- the hypotheses of (a), (b) are satisfiable (complete and running session) -/
example : Honest2 leadSc (Sys2.run leadSc follSc sched).f.out :=
  Sys2.get_F _ ▸ emitted_honest2 _ _ session_ok sched sched_causal .L
example : Honest2 follSc (Sys2.run leadSc follSc part).l.out :=
  Sys2.get_L _ ▸ emitted_honest2 _ _ session_ok part part_causal .F
example : ∀ m ∈ delivered2 part .L, m ∈ (Sys2.run leadSc follSc part).f.out :=
  Sys2.get_F _ ▸ delivered_are_emitted2 _ _ part part_causal .L
example : Honest2 follSc (idealOut2 leadSc) := ideal_honest2 leadSc follSc session_ok .F
example : ∀ m ∈ delivered2 sched .F, m ∈ idealOut2 leadSc := delivered_are_ideal2 _ _ session_ok sched sched_causal .F
example : (Sys2.run leadSc follSc sched).l.err = none :=
  Sys2.get_L _ ▸ no_honest_abort2 _ _ session_ok sched sched_causal .L
example : (Sys2.run leadSc follSc part).f.err = none :=
  Sys2.get_F _ ▸ no_honest_abort2 _ _ session_ok part part_causal .F
/-- … of (c), with two different schedules, for both parties -/
example (p : Side) : outcome2 ((Sys2.run leadSc follSc sched).get p) = outcome2 ((Sys2.run leadSc follSc inorder).get p) :=
  schedule_independent2 _ _ session_ok sched inorder sched_causal inorder_causal p
    (fun m => ⟨(same_sets p).1 m, (same_sets p).2 m⟩)
/-- … and of (d) -/
example (p : Side) : ((Sys2.run leadSc follSc sched).get p).result = some (sessionValue2 (scriptOf leadSc follSc p)) :=
  (complete_schedule_completes2 _ _ session_ok session_live sched sched_causal sched_complete p).2.2.1
example : (Sys2.run leadSc follSc sched).l.out = idealOut2 leadSc :=
  Sys2.get_L _ ▸ (complete_schedule_completes2 _ _ session_ok session_live sched sched_causal sched_complete .L).2.2.2.1

-- the values the kernel computes for this session (the same as in `Mps.C07.TwoParty.Ex`)
example : sessionValue2 leadSc = 6042 ∧ sessionValue2 follSc = 4096 := by decide
example : idealOut2 leadSc = [toF 1, toF 3, toF 5, toF 7] ∧ idealOut2 follSc = [toL 2, toL 4, toL 6] := by decide
example : idealOut2 leadSc = MF ∧ idealOut2 follSc = ML := by decide
set_option maxRecDepth 1000000 in
example : (Sys2.run leadSc follSc sched).l.result = some 6042 ∧ (Sys2.run leadSc follSc sched).f.result = some 4096 :=
  sched_checked.2.2
set_option maxRecDepth 1000000 in
example : terminal2 (Sys2.run leadSc follSc part).l = false ∧ (Sys2.run leadSc follSc part).l.cur = 6 ∧
    terminal2 (Sys2.run leadSc follSc part).f = false ∧ (Sys2.run leadSc follSc part).f.cur = 5 := by decide
end ExAlt

/-! ### non-vacuity 2: the SYMMETRIC shape of protocols/example (both parties start in a round that consumes
    nothing and sends, then one message per round in both directions; the follower does not move in its constructor
    and is woken by the leader's first message while it is still in round 1): `genScript2` with M = 3 -/
namespace ExSym

def rounds : List Round2 := [⟨1, false, true, 2⟩, ⟨2, true, true, 3⟩, ⟨3, true, true, 4⟩, ⟨4, true, false, 5⟩]
def scL : Script2 := ⟨[[97], [98]], [97], [98], 5, rounds, [7], [9], true, 0⟩
def scF : Script2 := ⟨[[97], [98]], [98], [97], 5, rounds, [7], [9], false, 0⟩
def toF (n : Nat) : Msg := msgOf scL n
def toL (n : Nat) : Msg := msgOf scF n

/-- round by round -/
def inorder : Sched2 := [(.F, toF 2), (.L, toL 2), (.F, toF 3), (.L, toL 3), (.F, toF 4), (.L, toL 4)]

/-- NOT in order. The leader's round-2 message wakes the follower in round 1; it runs to round 3 and has emitted its
    messages for rounds 2 and 3. The leader gets the round-3 message EARLY (it waits in round 2), then the round-2
    message, and runs to round 4. The follower gets round 2 again (repetition, LATE: it waits in round 3) and the
    round-4 message EARLY, then round 3, and ends. The leader gets round 2 again LATE (it waits in round 4), round 3
    again, then round 4, and ends; one more delivery after the end on each side. -/
def sched : Sched2 :=
  [(.F, toF 2), (.L, toL 3), (.L, toL 2), (.F, toF 2), (.F, toF 4), (.F, toF 3), (.L, toL 2), (.L, toL 3),
   (.L, toL 4), (.L, toL 2), (.F, toF 3)]

theorem session_ok : Session2Ok scL scF := by decide
theorem session_live : Session2Live scL scF := by decide
/-- what the kernel evaluates about `sched`, in one conjunction (the conjuncts share the states of the two handlers) -/
theorem sched_checked : Causal2 scL scF sched = true ∧ Complete2 (Sys2.run scL scF sched) sched = true ∧
    (Sys2.run scL scF sched).l.result = some 6039 ∧ (Sys2.run scL scF sched).f.result = some 3069 := by decide +kernel
theorem sched_causal : Causal2 scL scF sched = true := sched_checked.1
theorem inorder_causal : Causal2 scL scF inorder = true := by decide
theorem sched_not_in_order : (delivered2 sched .L).map (·.rnd) = [3, 2, 2, 3, 4, 2] ∧
    (delivered2 sched .F).map (·.rnd) = [2, 2, 4, 3, 3] := by decide
theorem same_sets : ∀ p, (∀ m ∈ delivered2 sched p, m ∈ delivered2 inorder p) ∧
    (∀ m ∈ delivered2 inorder p, m ∈ delivered2 sched p) := by
  intro p; cases p <;> decide
theorem sched_complete : Complete2 (Sys2.run scL scF sched) sched = true := sched_checked.2.1
/-- a prefix: the leader holds the early round-3 message and still waits in round 2; the follower waits in round 3 -/
def part : Sched2 := sched.take 2
theorem part_causal : Causal2 scL scF part = true := causal2_take sched_causal 2
/-- the follower is not moved by its constructor (it is in round 1, has emitted nothing) and is woken by the first
    delivery; the early message is only stored -/
theorem woken_and_early : (Sys2.init scL scF).f.cur = 1 ∧ (Sys2.init scL scF).f.out = [] ∧
    (Sys2.run scL scF part).f.cur = 3 ∧ (Sys2.run scL scF part).f.out = [toL 2, toL 3] ∧
    (Sys2.run scL scF part).l.cur = 2 ∧ lookup2 (Sys2.run scL scF part).l.msgs 3 = some (toL 3) := by decide

/-- the hypotheses of (a), (b) are satisfiable (complete and running session) -/
example : Honest2 scL (Sys2.run scL scF sched).f.out := Sys2.get_F _ ▸ emitted_honest2 _ _ session_ok sched sched_causal .L
example : Honest2 scF (Sys2.run scL scF part).l.out := Sys2.get_L _ ▸ emitted_honest2 _ _ session_ok part part_causal .F
example : ∀ m ∈ delivered2 part .L, m ∈ (Sys2.run scL scF part).f.out :=
  Sys2.get_F _ ▸ delivered_are_emitted2 _ _ part part_causal .L
example : Honest2 scL (idealOut2 scF) := ideal_honest2 scL scF session_ok .L
example : ∀ m ∈ delivered2 sched .L, m ∈ idealOut2 scF := delivered_are_ideal2 _ _ session_ok sched sched_causal .L
example : (Sys2.run scL scF sched).f.err = none := Sys2.get_F _ ▸ no_honest_abort2 _ _ session_ok sched sched_causal .F
example : (Sys2.run scL scF part).l.err = none := Sys2.get_L _ ▸ no_honest_abort2 _ _ session_ok part part_causal .L
/-- … of (c), with two different schedules, for both parties -/
example (p : Side) : outcome2 ((Sys2.run scL scF sched).get p) = outcome2 ((Sys2.run scL scF inorder).get p) :=
  schedule_independent2 _ _ session_ok sched inorder sched_causal inorder_causal p
    (fun m => ⟨(same_sets p).1 m, (same_sets p).2 m⟩)
/-- … and of (d) -/
example (p : Side) : ((Sys2.run scL scF sched).get p).result = some (sessionValue2 (scriptOf scL scF p)) :=
  (complete_schedule_completes2 _ _ session_ok session_live sched sched_causal sched_complete p).2.2.1
example : (Sys2.run scL scF sched).f.out = idealOut2 scF :=
  Sys2.get_F _ ▸ (complete_schedule_completes2 _ _ session_ok session_live sched sched_causal sched_complete .F).2.2.2.1

example : sessionValue2 scL = 6039 ∧ sessionValue2 scF = 3069 := by decide
example : idealOut2 scL = [toF 2, toF 3, toF 4] ∧ idealOut2 scF = [toL 2, toL 3, toL 4] := by decide
set_option maxRecDepth 1000000 in
example : (Sys2.run scL scF sched).l.result = some 6039 ∧ (Sys2.run scL scF sched).f.result = some 3069 :=
  sched_checked.2.2
end ExSym

/-! ### the harness's generator: `genScript2` (harness/main/suite_twoparty.go) draws M ∈ 1 … 5, builds the alternating
    shape (optionally with a silent extra round M + 1 at the leader's end) or the symmetric shape. All of its
    sessions (without the optional scripted `Finalize` error) satisfy `Session2Ok`; `Session2Live` holds exactly for
    those that can complete: the symmetric ones, and the alternating ones with odd M and the extra round (in the
    others the last message of the ping-pong would have to be sent by a party's LAST round, which only returns the
    result). Kernel-evaluated for the generator's whole range. -/
namespace Gen

def upto (M : Nat) : List Nat := (List.range M).map (· + 1)
def mkPair (final : Nat) (lead foll : List Round2) : Script2 × Script2 :=
  (⟨[[97], [98]], [97], [98], final, lead, [7], [9], true, 0⟩, ⟨[[97], [98]], [98], [97], final, foll, [7], [9], false, 0⟩)
def alt (M : Nat) (extra : Bool) : Script2 × Script2 :=
  mkPair (M + 1)
    (⟨1, false, true, 1⟩ :: ((upto M).filter (· % 2 == 0)).map (fun k => ⟨k, true, decide (k < M), k + 1⟩) ++
      (if extra then [⟨M + 1, false, false, 0⟩] else []))
    (((upto M).filter (· % 2 == 1)).map fun k => ⟨k, true, decide (k < M), k + 1⟩)
def sym (M : Nat) : Script2 × Script2 :=
  let rs : List Round2 := (upto (M + 1)).map fun k => ⟨k, decide (k > 1), decide (k ≤ M), k + 1⟩
  mkPair (M + 2) rs rs

example : alt 7 true = (Ex.leadSc, Ex.follSc) := rfl
example : sym 3 = (ExSym.scL, ExSym.scF) := rfl
theorem alt_ok : ∀ M ∈ [1, 2, 3, 4, 5], ∀ extra ∈ [true, false], Session2Ok (alt M extra).1 (alt M extra).2 := by decide
theorem alt_live : ∀ M ∈ [1, 3, 5], Session2Live (alt M true).1 (alt M true).2 := by decide
theorem alt_not_live : (∀ M ∈ [1, 3, 5], ¬ Session2Live (alt M false).1 (alt M false).2) ∧
    (∀ M ∈ [2, 4], ∀ extra ∈ [true, false], ¬ Session2Live (alt M extra).1 (alt M extra).2) := by decide
theorem sym_ok_live : ∀ M ∈ [1, 2, 3, 4, 5], Session2Ok (sym M).1 (sym M).2 ∧ Session2Live (sym M).1 (sym M).2 := by
  decide
end Gen

/-! ### counterexamples: what `Session2Ok` / `Session2Live` exclude does break (b), (c) / (d) -/
namespace Cex

def ids2 : List Bytes := [[97], [98]]
def mkL (final : Nat) (rs : List Round2) : Script2 := ⟨ids2, [97], [98], final, rs, [7], [9], true, 0⟩
def mkF (final : Nat) (rs : List Round2) : Script2 := ⟨ids2, [98], [97], final, rs, [7], [9], false, 0⟩

/-- the five conditions of `Session2Live`, one by one (to show which one a counterexample violates) -/
abbrev incr (a : Script2) : Prop := a.rounds.Pairwise (fun x y => x.num < y.num)
abbrev fedBy (a b : Script2) : Prop :=
  ∀ sp ∈ a.rounds, sp.recv = true → ∃ r ∈ b.rounds.dropLast, r.send = true ∧ r.sendNum = sp.num ∧
    (r.num < sp.num ∨ (r.num = sp.num ∧ r.recv = false))
abbrev wakeOk (scL scF : Script2) : Prop :=
  (scF.rounds.getD 0 default).recv = true ∨
    ((scL.rounds.getD 0 default).recv = false ∧ (scL.rounds.getD 0 default).send = true ∧ 2 ≤ scL.rounds.length)
theorem session2Live_iff (scL scF : Script2) :
    Session2Live scL scF ↔ incr scL ∧ incr scF ∧ fedBy scL scF ∧ fedBy scF scL ∧ wakeOk scL scF :=
  ⟨fun h => ⟨h.1, h.2, h.3, h.4, h.5⟩, fun h => ⟨h.1, h.2.1, h.2.2.1, h.2.2.2.1, h.2.2.2.2⟩⟩

/-- `1 ≤ sendNum`: a scripted message with round number 0 is read as the peer's abort notice. The leader's first
    round sends "for round 0"; the delivery is causal; the follower ends with `peerAbort` -/
def zL : Script2 := mkL 2 [⟨1, false, true, 0⟩, ⟨2, false, false, 0⟩]
def zF : Script2 := mkF 2 [⟨1, true, false, 0⟩]
theorem send_zero_aborts : ¬ Session2Ok zL zF ∧ Causal2 zL zF [(.F, msgOf zL 0)] = true ∧
    (Sys2.run zL zF [(.F, msgOf zL 0)]).f.err = some .peerAbort := by decide

/-- the target round must expect input: the leader sends for round number 2, which is a SILENT round of the
    follower; `verifyMessage` fails on a round without `MessageContent` and the follower blames the leader -/
def sL : Script2 := mkL 3 [⟨1, false, true, 2⟩, ⟨3, false, false, 0⟩]
def sF : Script2 := mkF 3 [⟨2, false, false, 0⟩, ⟨3, false, false, 0⟩]
theorem send_to_silent_aborts : ¬ Session2Ok sL sF ∧ Causal2 sL sF [(.F, msgOf sL 2)] = true ∧
    (Sys2.run sL sF [(.F, msgOf sL 2)]).f.err = some .msgFail := by decide

/-- pairwise different round numbers: the follower has a silent round 2 before its receiving round 2; the leader emits
    the messages for rounds 1 and 2 in its constructor. Every message goes to a round that expects input, both
    schedules are causal and deliver the same set — delivered in order the follower completes, delivered in the
    other order it blames the leader: (b) and (c) both fail -/
def dL : Script2 := mkL 4 [⟨1, false, true, 1⟩, ⟨3, false, true, 2⟩, ⟨4, false, false, 0⟩]
def dF : Script2 := mkF 4 [⟨1, true, false, 0⟩, ⟨2, false, false, 0⟩, ⟨2, true, false, 0⟩]
theorem dup_rounds_abort : ¬ Session2Ok dL dF ∧
    Causal2 dL dF [(.F, msgOf dL 1), (.F, msgOf dL 2)] = true ∧ Causal2 dL dF [(.F, msgOf dL 2), (.F, msgOf dL 1)] = true ∧
    (Sys2.run dL dF [(.F, msgOf dL 1), (.F, msgOf dL 2)]).f.err = none ∧
    (Sys2.run dL dF [(.F, msgOf dL 1), (.F, msgOf dL 2)]).f.result = some 2043 ∧
    (Sys2.run dL dF [(.F, msgOf dL 2), (.F, msgOf dL 1)]).f.err = some .msgFail := by decide

/-- `Session2Live.wake`: the follower's first round needs no input and would send what the leader's first round
    waits for — but the follower does not move in its constructor. `Session2Ok` holds, the EMPTY schedule is causal
    and fair to the end, and nobody ever ends -/
def wL : Script2 := mkL 3 [⟨2, true, false, 0⟩]
def wF : Script2 := mkF 3 [⟨1, false, true, 2⟩, ⟨3, false, false, 0⟩]
theorem unwoken_deadlock : Session2Ok wL wF ∧ ¬ Session2Live wL wF ∧ Causal2 wL wF [] = true ∧
    Complete2 (Sys2.run wL wF []) [] = true ∧ terminal2 (Sys2.run wL wF []).l = false ∧
    terminal2 (Sys2.run wL wF []).f = false := by decide

theorem unwoken_only_wake : incr wL ∧ incr wF ∧ fedBy wL wF ∧ fedBy wF wL ∧ ¬ wakeOk wL wF := by decide

/-- the order condition of `Session2Live.recvL`: the leader's round 2 waits for the message of the follower's
    round 3, which waits for the message of the leader's round 2. `Session2Ok` holds, the schedule is causal and
    fair to the end, and both wait forever -/
def cL : Script2 := mkL 5 [⟨1, false, true, 1⟩, ⟨2, true, true, 3⟩, ⟨4, false, false, 0⟩]
def cF : Script2 := mkF 5 [⟨1, true, false, 0⟩, ⟨3, true, true, 2⟩, ⟨5, false, false, 0⟩]
theorem cyclic_deadlock : Session2Ok cL cF ∧ ¬ Session2Live cL cF ∧ Causal2 cL cF [(.F, msgOf cL 1)] = true ∧
    Complete2 (Sys2.run cL cF [(.F, msgOf cL 1)]) [(.F, msgOf cL 1)] = true ∧
    terminal2 (Sys2.run cL cF [(.F, msgOf cL 1)]).l = false ∧ terminal2 (Sys2.run cL cF [(.F, msgOf cL 1)]).f = false := by
  decide

theorem cyclic_only_order : incr cL ∧ incr cF ∧ ¬ fedBy cL cF ∧ fedBy cF cL ∧ wakeOk cL cF := by decide

/-- increasing round numbers: every receiving round is fed by a round with a smaller number, but the follower
    executes its rounds in the order 5, 1, 7: its round 5 waits for the leader's round 2, which waits for the
    follower's round 1. `Session2Ok` holds, the empty schedule is causal and fair to the end, both wait forever -/
def uL : Script2 := mkL 7 [⟨2, true, true, 5⟩, ⟨6, false, false, 0⟩]
def uF : Script2 := mkF 7 [⟨5, true, false, 0⟩, ⟨1, false, true, 2⟩, ⟨7, false, false, 0⟩]
theorem unordered_deadlock : Session2Ok uL uF ∧ ¬ Session2Live uL uF ∧ Causal2 uL uF [] = true ∧
    Complete2 (Sys2.run uL uF []) [] = true ∧ terminal2 (Sys2.run uL uF []).l = false ∧
    terminal2 (Sys2.run uL uF []).f = false := by decide

theorem unordered_only_incr : incr uL ∧ ¬ incr uF ∧ fedBy uL uF ∧ fedBy uF uL ∧ wakeOk uL uF := by decide

/-- the last round of a script never sends (whatever its `send` flag says): with a single leader round that "sends"
    the follower is never fed. `Session2Ok` does not look at the flag of the last round, `Session2Live.recvF` does
    not accept it as a feeder -/
def lL : Script2 := mkL 2 [⟨1, false, true, 1⟩]
def lF : Script2 := mkF 2 [⟨1, true, false, 0⟩]
theorem last_round_is_silent : Session2Ok lL lF ∧ ¬ Session2Live lL lF ∧ (Sys2.run lL lF []).l.out = [] ∧
    (Sys2.run lL lF []).l.result = some 0 ∧ Complete2 (Sys2.run lL lF []) [] = true ∧
    terminal2 (Sys2.run lL lF []).f = false := by decide
end Cex

end Mps.C07.TwoParty.Sys
