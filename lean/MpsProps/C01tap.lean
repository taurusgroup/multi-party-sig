import MpsProps.C01alg
import MpsProofs.Sig
/-
  C01 (FROST-Taproot) — the BIP-340 parity renormalisation of frost/keygen/round3.go and
  frost/sign/round2.go, for every signer list, every nonce, every challenge function and BOTH values
  of both parity tests; closed end to end against the BIP-340 verifier specification of Mps.Sig
  (`schnorrVerifyO`) in any group with a parity predicate that flips under negation.
  The conditional negations are multiplications by a sign (`Alg.sgn`, `tapScalar_lawful`, `tapPoint_lawful`) and every step
  of key generation and signing is linear, so a renormalised run is an ordinary run on scaled inputs (`C01alg`); the
  value of a parity test is looked at only where parity is the claim (`taproot_norm_even`).
-/
namespace Mps.C01tap
open Mps.Alg

variable {F G : Type} [Field F] [AddCommGroup G] [Module F G] (g : G) {ι : Type} [DecidableEq ι]

/-- keygen round 3: negating every private share (when the raw key has odd y)
    gives a sharing of the negated secret under the code's Lagrange coefficients, for ANY signer list;
    each negated verification share is the public image of the negated private share. -/
theorem taproot_keygen_sharing (S : List ι) (x : ι → F) (sh : ι → F) (even : Bool) :
    reconstruct (lawful g : Ops F G) S x (fun i => tapScalar (lawful g : Ops F G) even (sh i)) =
        tapScalar (lawful g : Ops F G) even (reconstruct (lawful g : Ops F G) S x sh) ∧
    (∀ i, tapPoint (lawful g : Ops F G) even (actBase (lawful g : Ops F G) (sh i)) =
        actBase (lawful g : Ops F G) (tapScalar (lawful g : Ops F G) even (sh i))) ∧
    tapPoint (lawful g : Ops F G) even (actBase (lawful g : Ops F G) (reconstruct (lawful g : Ops F G) S x sh)) =
        actBase (lawful g : Ops F G) (reconstruct (lawful g : Ops F G) S x
          (fun i => tapScalar (lawful g : Ops F G) even (sh i))) :=
  ⟨reconstruct_tapScalar g sh even, fun i => tapPoint_actBase g even (sh i),
    by rw [reconstruct_tapScalar, tapPoint_actBase]⟩

/-- what round 2 stores: `RShares[l].Negate()` is the share of the negated nonces -/
theorem taproot_RShare (d e ρ : F) (even : Bool) :
    tapPoint (lawful g : Ops F G) even
        (frostRShare (lawful g : Ops F G) (actBase (lawful g : Ops F G) d) (actBase (lawful g : Ops F G) e) ρ) =
      frostRShare (lawful g : Ops F G) (actBase (lawful g : Ops F G) (tapScalar (lawful g : Ops F G) even d))
        (actBase (lawful g : Ops F G) (tapScalar (lawful g : Ops F G) even e)) ρ := by
  simp only [alg]
  module

set_option linter.unusedSectionVars false in -- the `[DecidableEq ι]` of the `variable` line is not needed here
/-- the nonce point of the negated nonces is the negated nonce point -/
theorem taproot_R (S : List ι) (d e ρ : ι → F) (even : Bool) :
    frostR (lawful g : Ops F G) (S.map fun i =>
        frostRShare (lawful g : Ops F G) (actBase (lawful g : Ops F G) (tapScalar (lawful g : Ops F G) even (d i)))
          (actBase (lawful g : Ops F G) (tapScalar (lawful g : Ops F G) even (e i))) (ρ i)) =
      tapPoint (lawful g : Ops F G) even (frostR (lawful g : Ops F G) (S.map fun i =>
        frostRShare (lawful g : Ops F G) (actBase (lawful g : Ops F G) (d i)) (actBase (lawful g : Ops F G) (e i)) (ρ i))) := by
  simp only [← taproot_RShare]
  simp only [alg, List.smul_sum, List.map_map, Function.comp_def]

/-- whatever the two parity tests say (`evY` at key generation, `evR` in
    round 2), for ANY signer list whose raw shares interpolate to sk, any nonces, binding values and
    challenge: the assembled z satisfies z·g = R' + c·Y' for the renormalised key Y' = ±sk·g and the
    renormalised nonce point R' = ±R. -/
theorem frost_taproot_sign_correct (S : List ι) (x : ι → F) (sh d e ρ : ι → F) (c sk : F) (evY evR : Bool)
    (hsk : reconstruct (lawful g : Ops F G) S x sh = sk) :
    schnorrVerify (lawful g : Ops F G)
      (tapPoint (lawful g : Ops F G) evY (actBase (lawful g : Ops F G) sk))
      (tapPoint (lawful g : Ops F G) evR (frostR (lawful g : Ops F G) (S.map fun i =>
        frostRShare (lawful g : Ops F G) (actBase (lawful g : Ops F G) (d i)) (actBase (lawful g : Ops F G) (e i)) (ρ i))))
      (frostAssemble (lawful g : Ops F G) (S.map fun i =>
        frostResponse (lawful g : Ops F G) (tapScalar (lawful g : Ops F G) evR (d i))
          (tapScalar (lawful g : Ops F G) evR (e i)) (ρ i) (lagrangeCoeff (lawful g : Ops F G) S x i)
          (tapScalar (lawful g : Ops F G) evY (sh i)) c))
      c := by
  have h := C01alg.frost_sign_correct g S x (fun i => tapScalar (lawful g : Ops F G) evY (sh i))
    (fun i => tapScalar (lawful g : Ops F G) evR (d i)) (fun i => tapScalar (lawful g : Ops F G) evR (e i)) ρ c _
    (reconstruct_tapScalar g sh evY)
  rwa [taproot_R, hsk, ← tapPoint_actBase] at h

/-- an honest response made with the renormalised nonces and share passes
    the check of round 3 against the renormalised verification share and the stored (negated) RShare. -/
theorem frost_taproot_share_check (d e ρ lam s c : F) (evY evR : Bool) :
    frostShareCheck (lawful g : Ops F G)
      (frostResponse (lawful g : Ops F G) (tapScalar (lawful g : Ops F G) evR d) (tapScalar (lawful g : Ops F G) evR e) ρ lam
        (tapScalar (lawful g : Ops F G) evY s) c) c lam
      (tapPoint (lawful g : Ops F G) evY (actBase (lawful g : Ops F G) s))
      (tapPoint (lawful g : Ops F G) evR
        (frostRShare (lawful g : Ops F G) (actBase (lawful g : Ops F G) d) (actBase (lawful g : Ops F G) e) ρ)) := by
  rw [taproot_RShare, tapPoint_actBase]
  exact C01alg.frost_share_check_complete g _ _ ρ lam _ c

/-- the renormalised point has even y (parity flips under negation of a non-zero point) and is not the identity -/
theorem taproot_norm_even (evenY : G → Bool) (hpar : ∀ P : G, P ≠ 0 → evenY (-P) = !evenY P) (P : G) (hP : P ≠ 0) :
    evenY (tapPoint (lawful g : Ops F G) (evenY P) P) = true ∧ tapPoint (lawful g : Ops F G) (evenY P) P ≠ 0 := by
  cases h : evenY P <;> simp [tapPoint, hpar P hP, h, hP]

/-- end to end: in any group with a parity predicate flipping under
    negation, a negation-invariant x coordinate and an even `lift_x`: the (x(R), z) that FROST-Taproot signing
    assembles from key material renormalised at key generation verifies under the BIP-340 verifier
    specification for the x-only key x(Y) — for every signer list whose raw shares interpolate to sk ≠ 0, all
    nonces with R ≠ 0, all binding values, every challenge function, every message. -/
theorem frost_taproot_bip340_accepts [DecidableEq F] [DecidableEq G] {X M : Type} [DecidableEq X]
    (xs : G → F) (evenY : G → Bool) (xc : G → X) (lift : X → Option G) (chal : X → X → M → F)
    (hpar : ∀ P : G, P ≠ 0 → evenY (-P) = !evenY P) (hxc : ∀ P : G, xc (-P) = xc P)
    (hlift : ∀ P : G, P ≠ 0 → evenY P = true → lift (xc P) = some P)
    (S : List ι) (x : ι → F) (sh d e ρ : ι → F) (sk : F) (m : M)
    (hsk : reconstruct (lawful g : Ops F G) S x sh = sk)
    (hY : actBase (lawful g : Ops F G) sk ≠ 0)
    (hR : frostR (lawful g : Ops F G) (S.map fun i =>
        frostRShare (lawful g : Ops F G) (actBase (lawful g : Ops F G) (d i)) (actBase (lawful g : Ops F G) (e i)) (ρ i)) ≠ 0) :
    let Y := actBase (lawful g : Ops F G) sk
    let R := frostR (lawful g : Ops F G) (S.map fun i =>
        frostRShare (lawful g : Ops F G) (actBase (lawful g : Ops F G) (d i)) (actBase (lawful g : Ops F G) (e i)) (ρ i))
    let c := chal (xc R) (xc Y) m
    Mps.Sig.schnorrVerifyO (Mps.Sig.lawful g xs evenY) xc lift chal (xc Y) m (xc R)
      (frostAssemble (lawful g : Ops F G) (S.map fun i =>
        frostResponse (lawful g : Ops F G) (tapScalar (lawful g : Ops F G) (evenY R) (d i))
          (tapScalar (lawful g : Ops F G) (evenY R) (e i)) (ρ i) (lagrangeCoeff (lawful g : Ops F G) S x i)
          (tapScalar (lawful g : Ops F G) (evenY Y) (sh i)) c)) = true := by
  intro Y R c
  obtain ⟨hYe, hY0⟩ := taproot_norm_even (F := F) g evenY hpar Y hY
  obtain ⟨hRe, hR0⟩ := taproot_norm_even (F := F) g evenY hpar R hR
  have hx := tapPoint_negInvariant (F := F) g xc hxc
  have h := Mps.Sig.schnorrVerifyO_of_eq g xs evenY xc lift chal hlift hY0 hYe hR0 hRe m _
    (by rw [hx, hx]; exact frost_taproot_sign_correct g S x sh d e ρ c sk (evenY Y) (evenY R) hsk)
  rwa [hx, hx] at h

/-- non-vacuity of `hsk`: on a one-signer list the share interpolates to itself -/
example : reconstruct (lawful (1 : ℚ) : Ops ℚ ℚ) [0] (fun _ : Fin 1 => (2 : ℚ)) (fun _ => 3) = 3 := by
  simp [reconstruct, lagrangeCoeff, lagNumerator, lagDenominator, mapKeys, prodF, sumF]

end Mps.C01tap
