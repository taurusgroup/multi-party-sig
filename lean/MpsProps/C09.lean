import MpsProps.Anchors.C09
import MpsProofs.Session
import MpsProps.Src.SrcCmpKeygen
import MpsProps.Src.SrcCmpSign
import MpsProps.Src.SrcCmpPresign
import MpsProps.Src.SrcFrostKeygen
import MpsProps.Src.SrcFrostSign
import MpsProps.Src.SrcDoernerKeygen
import MpsProps.Src.SrcDoernerSign
import MpsProps.HandlerSrc
import MpsProofs.Handler
import MpsGen.Session
import MpsGen.Protocols
/-
  C09 — Sessions are isolated from one another.
-/
namespace Mps.C09
open Mps Mps.Handler

/-! ### 1. Different session parameters give different session tags -/

/-- the items hashed into the session tag determine session id (incl. absent vs present), protocol
    id, group, participant list, threshold and every auxiliary item (CMP config, presignature id,
    message …) -/
theorem sessionItems_injective (p q : SessionParams) (hp : p.WF) (hq : q.WF)
    (h : sessionItems p = sessionItems q) : p = q := Mps.sessionItems_injective p q hp hq h

/-- equal SSIDs: equal parameters, or a collision of the hash function (`Mps.ssidWith_inj` names it: the two
    session transcripts) -/
theorem ssid_injective (H : Bytes → Bytes) (p q : SessionParams) (hp : p.WF) (hq : q.WF)
    (wp : ∀ i ∈ sessionItems p, i.WF) (wq : ∀ i ∈ sessionItems q, i.WF)
    (h : ssidWith H p = ssidWith H q) :
    p = q ∨ (∃ x y : Bytes, x ≠ y ∧ H x = H y) :=
  (ssidWith_inj H p q hp hq wp wq h).imp_right fun c => ⟨_, _, c⟩

/-- the per-party Fiat–Shamir / commitment context separates parties of one session -/
theorem hashForID_separates (p : SessionParams) (a b : Bytes) (ha : a ≠ []) (hb : b ≠ [])
    (h : hashForIDItems p a = hashForIDItems p b) : a = b := Mps.hashForID_separates p a b ha hb h

/-! ### 2. The handler refuses foreign messages, and delivering them anyway changes nothing -/

theorem foreign_ssid_refused (s : State) (m : Msg) (h : m.ssid.getD [] ≠ s.sc.ssid) : canAccept s m = false :=
  not_acceptable fun a => h a.ssid

theorem foreign_protocol_refused (s : State) (m : Msg) (h : m.proto ≠ s.sc.proto) : canAccept s m = false :=
  not_acceptable fun a => h a.proto

theorem wrong_recipient_refused (s : State) (m : Msg) (h1 : m.to ≠ []) (h2 : m.to ≠ s.sc.self) :
    canAccept s m = false :=
  not_acceptable fun a => a.toMe.elim h1 h2

theorem own_message_refused (s : State) (m : Msg) (h : m.frm = s.sc.self) : canAccept s m = false :=
  not_acceptable fun a => a.notOwn h

theorem unknown_sender_refused (s : State) (m : Msg) (h : m.frm ∉ s.sc.ids) :
    canAccept s m = false :=
  not_acceptable fun a => h a.known

theorem beyond_final_round_refused (s : State) (m : Msg) (h : m.rnd > s.sc.final) : canAccept s m = false :=
  not_acceptable fun a => Nat.not_le_of_gt h a.inRange

theorem stale_round_refused (s : State) (m : Msg) (h1 : 0 < m.rnd) (h2 : m.rnd < s.cur) : canAccept s m = false :=
  not_acceptable fun a => a.notStale.elim (Nat.not_le_of_gt h2) (Nat.ne_of_gt h1)

/-- delivering a refused message anyway leaves the whole handler state unchanged -/
theorem refused_is_noop (H : Bytes → Bytes) (s : State) (m : Msg) (h : canAccept s m = false) : accept H s m = s :=
  accept_refused H s m h

/-- Isolation, for all scripts and all call histories on both sides: a message emitted at any
    point of ANY run of a session is refused at any point of ANY run of a session with another tag
    or another protocol id, and delivering it there changes nothing. -/
theorem cross_session_noop (H : Bytes → Bytes) (sc₁ sc₂ : Script) (calls₁ calls₂ : List Call)
    (hdiff : sc₁.ssid ≠ sc₂.ssid ∨ sc₁.proto ≠ sc₂.proto) (m : Msg) (hm : m ∈ (run H sc₁ calls₁).out) :
    canAccept (run H sc₂ calls₂) m = false ∧ accept H (run H sc₂ calls₂) m = run H sc₂ calls₂ := by
  have hdr := run_outOk H sc₁ calls₁ m hm
  rw [run_sc] at hdr
  have hsc := run_sc H sc₂ calls₂
  have hc : canAccept (run H sc₂ calls₂) m = false := by
    rcases hdiff with h | h
    · apply foreign_ssid_refused
      rw [hsc, hdr.1]; exact h
    · apply foreign_protocol_refused
      rw [hsc, hdr.2.1]; exact h
  exact ⟨hc, refused_is_noop H _ m hc⟩

/-! ### 3. Obligations over the regenerated tables -/

/-- `round.NewSession` writes exactly the layout `sessionItems` models -/
theorem gen_session_layout : MpsGen.Session.newSessionWrites =
    [ "hash.New()",
      "if sessionID != nil: h.WriteAny(&hash.BytesWithDomain{ TheDomain: \"Session ID\", Bytes: sessionID, })",
      "h.WriteAny(&hash.BytesWithDomain{ TheDomain: \"Protocol ID\", Bytes: []byte(info.ProtocolID), })",
      "if info.Group != nil: h.WriteAny(&hash.BytesWithDomain{ TheDomain: \"Group Name\", Bytes: []byte(info.Group.Name()), })",
      "h.WriteAny(partyIDs)",
      "h.WriteAny(types.ThresholdWrapper(info.Threshold))",
      "h.WriteAny(a)",
      "h.Clone().Sum()" ] := rfl

theorem gen_hash_for_id : MpsGen.Session.hashForID = ["h.hash.Clone()", "if id != \"\": cloned.WriteAny(id)"] := rfl

/-- the refusal conditions of `CanAccept` that `canAccept` transcribes (both handlers) -/
theorem gen_can_accept :
    MpsGen.Session.canAcceptGuards =
      [ "msg == nil => false", "!msg.IsFor(r.SelfID()) => false", "msg.Protocol != r.ProtocolID() => false",
        "!bytes.Equal(msg.SSID, r.SSID()) => false", "!r.PartyIDs().Contains(msg.From) => false",
        "msg.Data == nil => false", "msg.RoundNumber > r.FinalRoundNumber() => false",
        "msg.RoundNumber < r.Number() && msg.RoundNumber > 0 => false" ] ∧
    MpsGen.Session.twoPartyCanAcceptGuards =
      [ "msg == nil => false", "!msg.IsFor(r.SelfID()) => false", "msg.Protocol != r.ProtocolID() => false",
        "!bytes.Equal(msg.SSID, r.SSID()) => false", "!r.PartyIDs().Contains(msg.From) => false",
        "msg.Data == nil => false", "msg.RoundNumber > r.FinalRoundNumber() => false" ] ∧
    MpsGen.Session.isFor = ["m.From == id => false", "false", "m.To == \"\" || m.To == id"] :=
  ⟨rfl, rfl, rfl⟩

/-- every protocol id handed to a session, per start function -/
theorem gen_protocol_ids : MpsGen.Protocols.protocolIDs =
    [ "protocols/cmp/cmp.go:Keygen|cmp/keygen-threshold",
      "protocols/cmp/cmp.go:Refresh|cmp/refresh-threshold",
      "protocols/cmp/presign/sign.go:StartPresignOnline|cmp/presign-online",
      "protocols/cmp/presign/sign.go:StartPresign|cmp/presign-full",
      "protocols/cmp/presign/sign.go:StartPresign|cmp/presign-offline",
      "protocols/cmp/sign/sign.go:StartSign|cmp/sign",
      "protocols/doerner/keygen/keygen.go:StartKeygen|doerner/keygen",
      "protocols/doerner/keygen/keygen.go:StartKeygen|doerner/refresh",
      "protocols/doerner/sign/sign.go:StartSignReceiver|doerner/sign",
      "protocols/doerner/sign/sign.go:StartSignSender|doerner/sign",
      "protocols/example/example.go:StartXOR|example/xor",
      "protocols/frost/keygen/keygen.go:StartKeygenCommon|frost/keygen-threshold",
      "protocols/frost/keygen/keygen.go:StartKeygenCommon|frost/keygen-threshold-taproot",
      "protocols/frost/sign/sign.go:StartSignCommon|frost/sign-threshold",
      "protocols/frost/sign/sign.go:StartSignCommon|frost/sign-threshold-taproot" ] := rfl

/-- … and no two different protocols share an id (the two roles of a two-party protocol do); the list is the
    ids of `gen_protocol_ids`, copied by hand -/
theorem gen_protocol_ids_nodup :
    (["cmp/keygen-threshold", "cmp/refresh-threshold", "cmp/presign-online", "cmp/presign-full", "cmp/presign-offline",
      "cmp/sign", "doerner/keygen", "doerner/refresh", "doerner/sign", "example/xor", "frost/keygen-threshold",
      "frost/keygen-threshold-taproot", "frost/sign-threshold", "frost/sign-threshold-taproot"] : List String).Nodup := by
  decide

/-- CMP refresh / sign / presign put the key material, the presignature id and the message into the tag -/
theorem gen_cmp_aux :
    MpsGen.Protocols.cmpSignSession = ["info", "sessionID", "pl", "config", "types.SigningMessage(message)"] ∧
    MpsGen.Protocols.cmpPresignSession = ["info", "sessionID", "pl", "c", "types.SigningMessage(message)"] ∧
    MpsGen.Protocols.cmpPresignOnlineSession =
      ["info", "sessionID", "pl", "c", "hash.BytesWithDomain{ TheDomain: \"PreSignatureID\", Bytes: preSignature.ID, }",
       "types.SigningMessage(message)"] ∧
    MpsGen.Protocols.cmpKeygenSession = ["info", "sessionID", "pl", "info", "sessionID", "pl", "c"] ∧
    MpsGen.Protocols.cmpConfigWrite =
      ["types.ThresholdWrapper(c.Threshold).WriteTo(w)", "c.PartyIDs()", "partyIDs.WriteTo(w)", "c.RID.WriteTo(w)",
       "c.Public[j].WriteTo(w)"] ∧
    MpsGen.Protocols.cmpPublicWrite =
      ["p.ECDSA.MarshalBinary()", "w.Write(data)", "p.ElGamal.MarshalBinary()", "w.Write(data)", "p.Paillier.WriteTo(w)",
       "p.Pedersen.WriteTo(w)"] :=
  ⟨rfl, rfl, rfl, rfl, rfl, rfl⟩

/-! ### Non-vacuity -/

def pA : SessionParams := { sid := some [1], proto := str "x", group := some (str "secp256k1"), ids := [str "ab", str "c"], thr := 1, aux := [] }
def pB : SessionParams := { pA with ids := [str "a", str "bc"] }
example : pA.WF := ⟨by decide, by intro i hi; simp [pA] at hi; rcases hi with rfl | rfl <;> decide, by decide⟩
/-- the two participant lists with one concatenation (`idsDataOld_collision`) -/
example : sessionItems pA ≠ sessionItems pB := by decide +kernel

end Mps.C09
