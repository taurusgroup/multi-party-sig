import MpsProps.C14alg
import MpsProps.C01tap
/-
  C14 (FROST-Taproot) — `TaprootConfig.Derive` / `DeriveChild`: tweak, then renormalise to the even-y key.
-/
namespace Mps.C14tap
open Mps.Alg Mps.C01tap

variable {F G : Type} [Field F] [AddCommGroup G] [Module F G] (g : G) {ι : Type} [DecidableEq ι]

/-- for every reconstruction list S (non-empty, distinct non-zero nodes), every
    tweak `a` and BOTH values of the parity test on the new key: the derived shares interpolate (with the code's
    Lagrange coefficients) to ±(sk + a), the derived table to ±(Y + a·g) with the same sign, and
    share·g = table entry is kept. -/
theorem taproot_derive_is_sharing (S : List ι) (x : ι → F) (hN : Nodes S x) (hne : S ≠ []) (sh : ι → F) (pub : ι → G)
    (a : F) (even : Bool) :
    reconstruct (lawful g : Ops F G) S x (fun i => tapDeriveShare (lawful g : Ops F G) even (sh i) a) =
        tapScalar (lawful g : Ops F G) even (deriveShare (lawful g : Ops F G) (reconstruct (lawful g : Ops F G) S x sh) a) ∧
    reconstructG (lawful g : Ops F G) S x (fun i => tapDerivePublic (lawful g : Ops F G) even (pub i) a) =
        tapPoint (lawful g : Ops F G) even (derivePublic (lawful g : Ops F G) (reconstructG (lawful g : Ops F G) S x pub) a) ∧
    (∀ i, actBase (lawful g : Ops F G) (sh i) = pub i →
      actBase (lawful g : Ops F G) (tapDeriveShare (lawful g : Ops F G) even (sh i) a) =
        tapDerivePublic (lawful g : Ops F G) even (pub i) a) := by
  obtain ⟨h1, h2, h3⟩ := C14alg.derive_is_sharing g S x hN hne sh pub a
  unfold tapDeriveShare tapDerivePublic
  refine ⟨?_, ?_, fun i hi => ?_⟩
  · rw [reconstruct_tapScalar, h1]
  · simp only [← h2, tapPoint_lawful, reconstructG_smul]
  · rw [← h3 i hi, tapPoint_actBase]

/-- the secret the derived shares interpolate to is the discrete logarithm of the
    EVEN-y point with the x coordinate that `Derive` exports (`publicKey.XBytes()` of Y + a·g), in any group with a
    parity predicate flipping under negation and a negation-invariant x coordinate. -/
theorem taproot_derive_key_even {X : Type} (evenY : G → Bool) (xc : G → X)
    (hpar : ∀ P : G, P ≠ 0 → evenY (-P) = !evenY P) (hxc : ∀ P : G, xc (-P) = xc P)
    (S : List ι) (x : ι → F) (hN : Nodes S x) (hne : S ≠ []) (sh : ι → F) (a : F)
    (hK : derivePublic (lawful g : Ops F G) (actBase (lawful g : Ops F G) (reconstruct (lawful g : Ops F G) S x sh)) a ≠ 0) :
    let K := derivePublic (lawful g : Ops F G) (actBase (lawful g : Ops F G) (reconstruct (lawful g : Ops F G) S x sh)) a
    let K' := actBase (lawful g : Ops F G)
      (reconstruct (lawful g : Ops F G) S x (fun i => tapDeriveShare (lawful g : Ops F G) (evenY K) (sh i) a))
    evenY K' = true ∧ K' ≠ 0 ∧ xc K' = xc K := by
  intro K K'
  have hK' : K' = tapPoint (lawful g : Ops F G) (evenY K) K := by
    show actBase (lawful g : Ops F G) _ = _
    rw [(taproot_derive_is_sharing g S x hN hne sh (fun i => actBase (lawful g : Ops F G) (sh i)) a (evenY K)).1,
      ← tapPoint_actBase]
    simp only [K, alg, add_smul]
  obtain ⟨he, h0⟩ := taproot_norm_even (F := F) g evenY hpar K hK
  exact hK' ▸ ⟨he, h0, tapPoint_negInvariant (F := F) g xc hxc (evenY K) K⟩

end Mps.C14tap
