import MpsProps.Anchors.C01
import Mps.Judge
import MpsProps.Src.SrcCmpSign
import MpsProps.Src.SrcCmpPresign
import MpsProps.Src.SrcFrostSign
import MpsProps.Src.SrcDoernerSign
import MpsProps.Src.SrcCmpConfig
import MpsProps.C01alg
import MpsProps.C01tap
import MpsProps.AlgGen
/-
  C01 — one import for the property: anchors and source tables, and the theorems, which are in
  MpsProps/C01alg.lean (algebra layer) and MpsProps/C01tap.lean (FROST-Taproot).
-/
