import MpsProps.Anchors.C14
import Mps.Judge
import MpsProps.Src.SrcCmpKeygen
import MpsProps.Src.SrcFrostKeygen
import MpsProps.Src.SrcDoernerKeygen
import MpsProps.Src.SrcCmpConfig
import MpsProps.C14alg
import MpsProps.C14tap
import MpsProps.AlgGen
/-
  C14 — one import for the property: anchors and source tables, and the theorems, which are in
  MpsProps/C14alg.lean (algebra layer) and MpsProps/C14tap.lean (FROST-Taproot).
-/
