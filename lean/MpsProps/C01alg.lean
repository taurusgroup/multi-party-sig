import MpsProofs.AlgebraSharing
import MpsProofs.AlgebraSign
/-
  C01 (algebra layer) — signatures assembled by the protocols satisfy the verification equations,
  for every signer list; two completions with the same nonce point give the same signature.
  Also the Lagrange / Horner theorems every other property rests on.
-/
namespace Mps.C01alg
open Mps.Alg Polynomial

variable {F G : Type} [Field F] [AddCommGroup G] [Module F G] (g : G) {ι : Type} [DecidableEq ι]

/-- the coefficients `polynomial.lagrange` computes — numerator ∏ over ALL nodes,
    denominator xⱼ·∏_{i≠j}(xᵢ − xⱼ) — for ANY duplicate-free id list with distinct non-zero scalar images
    (not only prefixes, any order) and any polynomial of degree < |l|:  Σⱼ λⱼ·f(xⱼ) = f(0). -/
theorem lagrange_at_zero (l : List ι) (x : ι → F) (hN : Nodes l x) (f : F[X]) (hdeg : f.degree < l.length) :
    sumF (lawful g : Ops F G) (l.map fun j =>
      (lawful g : Ops F G).mul (lagrangeCoeff (lawful g : Ops F G) l x j) (f.eval (x j))) = f.eval 0 :=
  reconstruct_eval g hN f hdeg

/-- the same on a finite set (statement sketch of DESIGN Appendix C) -/
theorem lagrange_at_zero_finset (s : Finset ι) (x : ι → F) (hinj : Set.InjOn x s) (hnz : ∀ i ∈ s, x i ≠ 0)
    (f : F[X]) (hdeg : f.degree < s.card) : ∑ j ∈ s, lagCoeff s x j * f.eval (x j) = f.eval 0 :=
  lagCoeff_at_zero s x hinj hnz f hdeg

/-- the transcription agrees with the closed formula -/
theorem lagrange_formula (l : List ι) (hl : l.Nodup) (x : ι → F) (j : ι) (hj : j ∈ l) :
    lagrangeCoeff (lawful g : Ops F G) l x j =
      (∏ i ∈ l.toFinset, x i) / (x j * ∏ i ∈ l.toFinset.erase j, (x i - x j)) :=
  lagrangeCoeff_lawful g l hl x j hj

theorem lagrange_sum_one (l : List ι) (x : ι → F) (hN : Nodes l x) (hne : l ≠ []) :
    sumF (lawful g : Ops F G) (l.map fun j => lagrangeCoeff (lawful g : Ops F G) l x j) = 1 := by
  have h := reconstruct_const g hN hne (1 : F)
  unfold reconstruct at h
  simpa using h

/-- `lagrange_at_zero` for polynomials with coefficients in `G` ("in the exponent"), in
    both representations of `polynomial.Exponent`. -/
theorem lagrange_exponent (l : List ι) (x : ι → F) (hN : Nodes l x) (e : Exponent G)
    (hdeg : expDegree e < (l.length : Int)) :
    reconstructG (lawful g : Ops F G) l x (fun j => evalExp (lawful g : Ops F G) e (x j)) =
      expConstant (lawful g : Ops F G) e :=
  reconstructG_exp g hN e hdeg

/-- coefficient-list form (what `NewPolynomial` holds) -/
theorem lagrange_coeff_list (l : List ι) (x : ι → F) (hN : Nodes l x) (cs : List F) (hlen : cs.length ≤ l.length) :
    reconstruct (lawful g : Ops F G) l x (fun j => evalPoly (lawful g : Ops F G) cs (x j)) = cs.headD 0 :=
  reconstruct_poly g hN cs hlen

theorem horner_eq_eval (cs : List F) (x : F) :
    evalPoly (lawful g : Ops F G) cs x = (polyOf cs).eval x ∧ (polyOf cs).degree < cs.length ∧
      ∀ k, (polyOf cs).coeff k = cs.getD k 0 :=
  ⟨Alg.horner_eq_eval g cs x, polyOf_degree_lt cs, polyOf_coeff cs⟩

/-- the `IsConstant` representation (constant coefficient omitted) evaluates
    like the polynomial with an explicit identity constant coefficient. -/
theorem evalExp_isConstant (cs : List G) (x : F) :
    evalExp (lawful g : Ops F G) ⟨true, cs⟩ x = evalExp (lawful g : Ops F G) ⟨false, 0 :: cs⟩ x := by
  simp [evalExp_lawful]

/-- `NewPolynomialExponent` then `Evaluate` = `Polynomial.Evaluate` then `ActOnBase` -/
theorem evalExp_commit [DecidableEq F] (cs : List F) (x : F) :
    evalExp (lawful g : Ops F G) (expOfPoly (lawful g : Ops F G) cs) x =
      actBase (lawful g : Ops F G) (evalPoly (lawful g : Ops F G) cs x) :=
  evalExp_expOfPoly g cs x

set_option linter.unusedSectionVars false in -- the `[DecidableEq ι]` of the `variable` line is not needed here
/-- the group commitment of round 2 for nonces (dᵢ, eᵢ) and binding values ρᵢ -/
theorem frostR_eq (S : List ι) (d e ρ : ι → F) :
    frostR (lawful g : Ops F G) (S.map fun i =>
        frostRShare (lawful g : Ops F G) (actBase (lawful g : Ops F G) (d i)) (actBase (lawful g : Ops F G) (e i)) (ρ i)) =
      (S.map fun i => d i + ρ i * e i).sum • g := by
  simp only [alg, List.sum_smul, List.map_map, Function.comp_def, add_smul, mul_smul, add_comm]

/-- an honestly computed response passes the check of round 3 -/
theorem frost_share_check_complete (d e ρ lam s c : F) :
    frostShareCheck (lawful g : Ops F G) (frostResponse (lawful g : Ops F G) d e ρ lam s c) c lam
      (actBase (lawful g : Ops F G) s)
      (frostRShare (lawful g : Ops F G) (actBase (lawful g : Ops F G) d) (actBase (lawful g : Ops F G) e) ρ) := by
  simp only [alg]
  module

/-- if EVERY response passes the check against the verification shares Yᵢ
    and the Yᵢ interpolate to the group key Y, the assembled signature verifies — whatever the zᵢ are. -/
theorem frost_share_check_sound (S : List ι) (x : ι → F) (z : ι → F) (Ysh Rsh : ι → G) (Y : G) (c : F)
    (hY : reconstructG (lawful g : Ops F G) S x Ysh = Y)
    (hchk : ∀ i ∈ S, frostShareCheck (lawful g : Ops F G) (z i) c (lagrangeCoeff (lawful g : Ops F G) S x i) (Ysh i) (Rsh i)) :
    schnorrVerify (lawful g : Ops F G) Y (frostR (lawful g : Ops F G) (S.map Rsh))
      (frostAssemble (lawful g : Ops F G) (S.map z)) c := by
  subst hY
  simp only [alg, reconstructG] at hchk ⊢
  rw [List.sum_smul, List.smul_sum, List.map_map, List.map_map, ← List.sum_map_add]
  exact (congrArg List.sum (List.map_congr_left hchk)).symm

/-- ANY signer list S whose shares interpolate (with the code's coefficients) to sk
    — in particular every S with |S| ≥ t+1 after a keygen / any refresh history (`C02alg`, `C08alg`) —,
    any nonces, any binding values, any challenge c: the assembled (R, z) satisfies z·g = R + c·Y. -/
theorem frost_sign_correct (S : List ι) (x : ι → F) (sh d e ρ : ι → F) (c sk : F)
    (hsk : reconstruct (lawful g : Ops F G) S x sh = sk) :
    schnorrVerify (lawful g : Ops F G) (actBase (lawful g : Ops F G) sk)
      (frostR (lawful g : Ops F G) (S.map fun i =>
        frostRShare (lawful g : Ops F G) (actBase (lawful g : Ops F G) (d i)) (actBase (lawful g : Ops F G) (e i)) (ρ i)))
      (frostAssemble (lawful g : Ops F G) (S.map fun i =>
        frostResponse (lawful g : Ops F G) (d i) (e i) (ρ i) (lagrangeCoeff (lawful g : Ops F G) S x i) (sh i) c))
      c :=
  frost_share_check_sound g S x _ _ _ _ c ((reconstructG_smul_base g sh g).trans (congrArg (· • g) hsk))
    fun i _ => frost_share_check_complete g (d i) (e i) (ρ i) _ (sh i) c

/-- with shares that are values of a polynomial with ≤ |S| coefficients: the key is its constant -/
theorem frost_sign_correct_poly (S : List ι) (x : ι → F) (hN : Nodes S x) (cs : List F) (hlen : cs.length ≤ S.length)
    (d e ρ : ι → F) (c : F) :
    schnorrVerify (lawful g : Ops F G) (actBase (lawful g : Ops F G) (cs.headD 0))
      (frostR (lawful g : Ops F G) (S.map fun i =>
        frostRShare (lawful g : Ops F G) (actBase (lawful g : Ops F G) (d i)) (actBase (lawful g : Ops F G) (e i)) (ρ i)))
      (frostAssemble (lawful g : Ops F G) (S.map fun i =>
        frostResponse (lawful g : Ops F G) (d i) (e i) (ρ i) (lagrangeCoeff (lawful g : Ops F G) S x i)
          (evalPoly (lawful g : Ops F G) cs (x i)) c))
      c :=
  frost_sign_correct g S x _ d e ρ c _ (reconstruct_poly g hN cs hlen)

/-- the nonce point (and challenge) determine the response -/
theorem schnorr_z_unique (hg : g ≠ 0) (Y R : G) (c z z' : F)
    (h : schnorrVerify (lawful g : Ops F G) Y R z c) (h' : schnorrVerify (lawful g : Ops F G) Y R z' c) : z = z' :=
  smul_left_injective F hg (h.symm.trans h')

/-- Signers S (any duplicate-free list), nonce shares k, mask shares γ, (already
    Lagrange-scaled) key shares xs, and an ABSTRACT MtA: the outputs satisfy
    `α i j + β j i = a j · k i` for every ordered pair of different signers (a = γ for δ, a = xs for χ).
    Then: Σδᵢ = k·γ, Σχᵢ = k·x, the Δ-consistency check of round 4 passes, s = Σσᵢ = k·(m + r·x), and —
    when δ ≠ 0 and s ≠ 0 (round 4 inverts δ unguarded: δ = 0 gives the identity as R, and `Verify` refuses r = 0 and
    s = 0) — R = δ⁻¹·Γ = k⁻¹·g and the ECDSA
    equation s⁻¹·(m·g + r·X) = R holds, for ANY value r (the code takes r = R.XScalar()). -/
theorem cmp_sign_correct (S : List ι) (hS : S.Nodup) (k γ xs : ι → F) (αd βd αc βc : ι → ι → F)
    (hmtaδ : ∀ i ∈ S, ∀ j ∈ S, i ≠ j → αd i j + βd j i = γ j * k i)
    (hmtaχ : ∀ i ∈ S, ∀ j ∈ S, i ≠ j → αc i j + βc j i = xs j * k i) (m r : F) :
    let O : Ops F G := lawful g
    let δ := sumF O (S.map fun i => cmpShareOf O S γ k αd βd i)
    let Γ := cmpGamma O (S.map fun i => actBase O (γ i))
    let R := cmpR O δ Γ
    let X := cmpSignPublicKey O (S.map fun i => actBase O (xs i))
    let s := ecdsaAssemble O (S.map fun i => cmpSigmaShare O r (cmpShareOf O S xs k αc βc i) m (k i))
    δ = (S.map k).sum * (S.map γ).sum ∧
    sumF O (S.map fun i => cmpShareOf O S xs k αc βc i) = (S.map k).sum * (S.map xs).sum ∧
    s = (S.map k).sum * (m + r * (S.map xs).sum) ∧
    cmpDeltaCheck O δ (S.map fun i => cmpBigDeltaShare O (k i) Γ) ∧
    X = (S.map xs).sum • g ∧
    (δ ≠ 0 → s ≠ 0 → R = ((S.map k).sum)⁻¹ • g ∧ ecdsaEq O X R m r s) := by
  intro O δ Γ R X s
  have hδ : δ = (S.map k).sum * (S.map γ).sum :=
    (sumF_lawful g _).trans (cmp_shares_sum g S hS γ k αd βd hmtaδ)
  have hχ : (S.map fun i => cmpShareOf O S xs k αc βc i).sum = (S.map k).sum * (S.map xs).sum :=
    cmp_shares_sum g S hS xs k αc βc hmtaχ
  have hΓ : Γ = (S.map γ).sum • g := by simp only [Γ, O, alg, sum_map_smul]
  have hX : X = (S.map xs).sum • g := by simp only [X, O, alg, sum_map_smul]
  have hs : s = (S.map k).sum * (m + r * (S.map xs).sum) := by
    rw [← ecdsa_assemble S k _ _ m r hχ]
    simp only [s, O, alg, add_comm]
  refine ⟨hδ, (sumF_lawful g _).trans hχ, hs, ?_, hX, fun hδ0 hs0 => ?_⟩
  · simp only [O, alg, hδ, hΓ, mul_smul, sum_map_smul]
  · have hγ : (S.map γ).sum ≠ 0 := right_ne_zero_of_mul (hδ ▸ hδ0)
    have hR : R = ((S.map k).sum)⁻¹ • g := by
      simp only [R, O, alg, hδ, hΓ, ← mul_smul, mul_inv, inv_mul_cancel_right₀ hγ]
    refine ⟨hR, ?_⟩
    simp only [O, alg, hR, hX]
    exact ecdsa_core g _ m r _ _ hs hs0

/-- `cmp_sign_correct` with its `let`s as equations -/
theorem cmp_sign_core (S : List ι) (hS : S.Nodup) (k γ xs : ι → F) (αd βd αc βc : ι → ι → F)
    (hmtaδ : ∀ i ∈ S, ∀ j ∈ S, i ≠ j → αd i j + βd j i = γ j * k i)
    (hmtaχ : ∀ i ∈ S, ∀ j ∈ S, i ≠ j → αc i j + βc j i = xs j * k i) (m r : F)
    (δ : F) (Γ R X : G) (s : F)
    (dδ : δ = sumF (lawful g : Ops F G) (S.map fun i => cmpShareOf (lawful g : Ops F G) S γ k αd βd i))
    (dΓ : Γ = cmpGamma (lawful g : Ops F G) (S.map fun i => actBase (lawful g : Ops F G) (γ i)))
    (dR : R = cmpR (lawful g : Ops F G) δ Γ)
    (dX : X = cmpSignPublicKey (lawful g : Ops F G) (S.map fun i => actBase (lawful g : Ops F G) (xs i)))
    (ds : s = ecdsaAssemble (lawful g : Ops F G) (S.map fun i =>
      cmpSigmaShare (lawful g : Ops F G) r (cmpShareOf (lawful g : Ops F G) S xs k αc βc i) m (k i))) :
    δ = (S.map k).sum * (S.map γ).sum ∧
    sumF (lawful g : Ops F G) (S.map fun i => cmpShareOf (lawful g : Ops F G) S xs k αc βc i) =
      (S.map k).sum * (S.map xs).sum ∧
    s = (S.map k).sum * (m + r * (S.map xs).sum) ∧
    cmpDeltaCheck (lawful g : Ops F G) δ (S.map fun i => cmpBigDeltaShare (lawful g : Ops F G) (k i) Γ) ∧
    X = (S.map xs).sum • g ∧
    (δ ≠ 0 → s ≠ 0 → R = ((S.map k).sum)⁻¹ • g ∧ ecdsaEq (lawful g : Ops F G) X R m r s) := by
  subst dδ dΓ dR dX ds
  exact cmp_sign_correct g S hS k γ xs αd βd αc βc hmtaδ hmtaχ m r

/-- the share scaling of `StartSign` / `StartPresign`: the scaled secrets add up to the interpolated
    secret and the scaled public shares to the interpolated key — for ANY signer list with a consistent
    table; with a sharing of degree ≤ t and |S| ≥ t+1 that is (sk, sk·g) (`C02alg.reconstruct_any_subset`). -/
theorem cmp_scaling (S : List ι) (x : ι → F) (sh : ι → F) (pub : ι → G)
    (hpub : ∀ i ∈ S, actBase (lawful g : Ops F G) (sh i) = pub i) :
    (S.map fun i => cmpScaleSecret (lawful g : Ops F G) (lagrangeCoeff (lawful g : Ops F G) S x i) (sh i)).sum =
        reconstruct (lawful g : Ops F G) S x sh ∧
    cmpSignPublicKey (lawful g : Ops F G)
        (S.map fun i => cmpScalePublic (lawful g : Ops F G) (lagrangeCoeff (lawful g : Ops F G) S x i) (pub i)) =
      reconstruct (lawful g : Ops F G) S x sh • g ∧
    (∀ i ∈ S, cmpScalePublic (lawful g : Ops F G) (lagrangeCoeff (lawful g : Ops F G) S x i) (pub i) =
      actBase (lawful g : Ops F G) (cmpScaleSecret (lawful g : Ops F G) (lagrangeCoeff (lawful g : Ops F G) S x i) (sh i))) := by
  exact ⟨by simp only [reconstruct, alg],
    (reconstructG_congr _ fun i hi => (hpub i hi).symm).trans (reconstructG_smul_base g sh g),
    fun i hi => by simp only [alg, ← hpub i hi, mul_smul]⟩

set_option linter.unusedSectionVars false in -- the `[DecidableEq ι]` of the `variable` line is not needed here
/-- a presignature (R, kᵢ, χᵢ) with Σχᵢ = k·x and R = k⁻¹·g (what
    `cmp_sign_correct` shows the seven presign rounds produce, same δ/χ formulas) and the online shares
    σᵢ = kᵢ·m + r·χᵢ of `PreSignature.SignatureShare`: s = Σσᵢ = k(m + r·x) and, when s ≠ 0, the ECDSA
    equation holds. Also: Σ Sⱼ = X (the check of presign7) and every honest share passes
    `VerifySignatureShares` (with R̄ᵢ = kᵢ·R, Sᵢ = χᵢ·R). -/
theorem cmp_presign_online_correct (S : List ι) (k χ : ι → F) (xsec m r : F)
    (hχ : (S.map χ).sum = (S.map k).sum * xsec) (hk : (S.map k).sum ≠ 0) :
    let O : Ops F G := lawful g
    let R : G := ((S.map k).sum)⁻¹ • g
    let X : G := xsec • g
    let s := ecdsaAssemble O (S.map fun i => presigSigmaShare O m (k i) r (χ i))
    s = (S.map k).sum * (m + r * xsec) ∧
    (s ≠ 0 → ecdsaEq O X R m r s) ∧
    presignKeyCheck O X (S.map fun i => presignS O (χ i) R) ∧
    (∀ i, presigShareCheck O (presigSigmaShare O m (k i) r (χ i)) m r R (k i • R) (presignS O (χ i) R)) := by
  intro O R X s
  have hs : s = (S.map k).sum * (m + r * xsec) := by
    rw [← ecdsa_assemble S k χ xsec m r hχ]
    simp only [s, O, alg]
  refine ⟨hs, fun hs0 => ?_, ?_, fun i => ?_⟩
  · simp only [O, alg]
    exact ecdsa_core g _ m r _ _ hs hs0
  · simp only [O, alg, R, X]
    rw [sum_map_smul, hχ, mul_comm, mul_smul, smul_inv_smul₀ hk]
  · simp only [O, alg]
    module

/-- `cmp_presign_online_correct` with its `let`s as equations -/
theorem cmp_presign_online_core (S : List ι) (k χ : ι → F) (xsec m r : F)
    (hχ : (S.map χ).sum = (S.map k).sum * xsec) (hk : (S.map k).sum ≠ 0) (R X : G) (s : F)
    (dR : R = ((S.map k).sum)⁻¹ • g) (dX : X = xsec • g)
    (ds : s = ecdsaAssemble (lawful g : Ops F G) (S.map fun i => presigSigmaShare (lawful g : Ops F G) m (k i) r (χ i))) :
    s = (S.map k).sum * (m + r * xsec) ∧
    (s ≠ 0 → ecdsaEq (lawful g : Ops F G) X R m r s) ∧
    presignKeyCheck (lawful g : Ops F G) X (S.map fun i => presignS (lawful g : Ops F G) (χ i) R) ∧
    (∀ i, presigShareCheck (lawful g : Ops F G) (presigSigmaShare (lawful g : Ops F G) m (k i) r (χ i)) m r R
      (k i • R) (presignS (lawful g : Ops F G) (χ i) R)) := by
  subst dR dX ds
  exact cmp_presign_online_correct g S k χ xsec m r hχ hk

/-- `RBar[j] = δ⁻¹·Δⱼ` of presign6 is kⱼ·R -/
theorem presign_rbar (delta kj : F) (Gamma : G) :
    presignRBar (lawful g : Ops F G) delta (cmpBigDeltaShare (lawful g : Ops F G) kj Gamma) =
      kj • cmpR (lawful g : Ops F G) delta Gamma := by
  simp only [alg]
  rw [smul_comm]

/-- two signatures with the same nonce point R (≠ identity, as `Verify` requires
    r = R.XScalar() ≠ 0) that satisfy the verification equation for the same key and digest have the same s. -/
theorem ecdsa_s_unique (X R : G) (hR : R ≠ 0) (m r s s' : F)
    (h : ecdsaEq (lawful g : Ops F G) X R m r s) (h' : ecdsaEq (lawful g : Ops F G) X R m r s') : s = s' := by
  simp only [alg] at h h'
  have hP : m • g + r • X ≠ 0 := by
    intro e; rw [e, smul_zero] at h; exact hR h.symm
  exact inv_injective (smul_left_injective F hP (h.trans h'.symm))

/-- A = sender with share skA, nonce kA, mask φ; B = receiver with share skB,
    nonce kB. ABSTRACT multiplication outputs: `tA1 + tB1 = α₀·kB⁻¹`, `tA21 + tB21 = α₁·kB⁻¹`,
    `tA22 + tB22 = α₂·β` with the inputs the code feeds (α₀ = kA⁻¹+φ, α₁ = skA·kA⁻¹, α₂ = kA⁻¹, β = skB·kB⁻¹).
    Then: both sides compute the same Γ₁ (so the same hash h₁, and B recovers φ), the same Γ₂ (same h₂),
    B's `sigAB` is sigA + sigB = (m + r·sk)/(kA·kB), and with R = kA·kB·g the ECDSA equation holds. -/
theorem doerner_sign_correct (skA skB kA kB φ tA1 tB1 tA21 tB21 tA22 tB22 m r h1 h2 : F)
    (hkA : kA ≠ 0) (hkB : kB ≠ 0) :
    let O : Ops F G := lawful g
    let kBInv := doeKBInv O kB
    let D := doeD O kB
    let R := doeR O kA D
    let X : G := (skA + skB) • g
    let tA2 := doeTA2 O tA21 tA22
    let tB2 := O.add tB21 tB22
    let θ := doeTheta O (doePhiB O h1 (doeMuPhi O h1 φ)) kBInv tB1
    let sigA := doeSigA O m tA1 r tA2
    let sigB := doeSigB O m θ r tB2
    let sigAB := doeSigAB O sigB (doeMuSig O h2 sigA) h2
    tA1 + tB1 = doeAlpha0 O kA φ * kBInv →
    tA21 + tB21 = doeAlpha1 O skA kA * kBInv →
    tA22 + tB22 = doeAlpha2 O kA * doeBeta O skB kBInv →
    doeGamma1A O φ kA tA1 R = doeGamma1B O tB1 R ∧
    doePhiB O h1 (doeMuPhi O h1 φ) = φ ∧
    doeGamma2A O tA1 tA2 X = doeGamma2B O tB2 θ X ∧
    sigAB = sigA + sigB ∧
    sigAB = (kA * kB)⁻¹ * (m + r * (skA + skB)) ∧
    R = (kA * kB) • g ∧
    (sigAB ≠ 0 → ecdsaEq O X R m r sigAB) := by
  simp only [alg]
  intro e1 e2 e3
  rw [neg_add_cancel_left]
  obtain ⟨f1, f2, f3⟩ := doerner_field hkA hkB e1 e2 e3
  have hsig : m * (-(φ * kB⁻¹) + tB1) + r * (tB21 + tB22) + (h2 + (m * tA1 + r * (tA21 + tA22))) - h2 =
      (kA * kB)⁻¹ * (m + r * (skA + skB)) := by linear_combination m * f2 + r * f3
  refine ⟨?_, rfl, ?_, by abel, hsig, by rw [mul_smul], fun hs0 => ?_⟩
  · linear_combination (norm := module) (-f1) • g
  · linear_combination (norm := module) (skA + skB) • f2 • g - f3 • g
  · rw [← mul_smul kA kB]
    exact ecdsa_of_log g (by rw [hsig, mul_inv_cancel_left₀ (mul_ne_zero hkA hkB)]) hs0

/-! ### non-vacuity -/
example : Nodes (F := ℚ) [2, 0] (fun i : ℕ => (i : ℚ) + 1) := Nodes.natCast_add_one (by decide)
/-- an MtA satisfying the hypothesis exists for every input: α i j := a j · k i, β := 0 -/
example (a k : ℕ → ℚ) : ∀ i ∈ [0, 1, 2], ∀ j ∈ [0, 1, 2], i ≠ j →
    (fun i j => a j * k i) i j + (fun _ _ => (0 : ℚ)) j i = a j * k i := by
  intro i _ j _ _; simp

end Mps.C01alg
