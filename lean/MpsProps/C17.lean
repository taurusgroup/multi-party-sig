import MpsProps.Anchors.C17
import MpsProofs.Handler
import MpsProps.HandlerSrc
import MpsProofs.TwoParty
import MpsProofs.ReplayOrder
import MpsGen.Session
/-
  C17 — Handler lifecycle is well-defined (all call sequences) and lock-protected.
  Model: Mps.Handler (transcription of pkg/protocol/handler.go, `MultiHandler`).
-/
namespace Mps.C17
open Mps Mps.Handler

/-- Lifecycle invariant, for EVERY protocol script and EVERY sequence of calls: the handler is
    either running (channel open, no result, no error) or ended (channel closed exactly once and
    exactly one of result / error set). -/
theorem lifecycle (H : Bytes → Bytes) (sc : Script) (calls : List Call) : Good (run H sc calls) :=
  run_good H sc calls

/-- the outgoing channel is never closed twice -/
theorem close_at_most_once (H : Bytes → Bytes) (sc : Script) (calls : List Call) : (run H sc calls).closes ≤ 1 := by
  rw [((good_iff _).mp (lifecycle H sc calls)).1]
  split <;> decide

/-- it is closed exactly when the session has ended -/
theorem closed_iff_ended (H : Bytes → Bytes) (sc : Script) (calls : List Call) :
    (run H sc calls).closes = 1 ↔ terminal (run H sc calls) = true := by
  rw [((good_iff _).mp (lifecycle H sc calls)).1]
  split <;> simp [*]

/-- Result is a value or an error, never both -/
theorem result_xor_error (H : Bytes → Bytes) (sc : Script) (calls : List Call) :
    ¬ ((run H sc calls).err.isSome = true ∧ (run H sc calls).result.isSome = true) := by
  rcases ((good_iff _).mp (lifecycle H sc calls)).2 with h | h <;> simp [h]

/-- once ended, no later call sequence changes anything (in particular Result stays fixed and
    messages arriving after the end are ignored) -/
theorem ended_is_final (H : Bytes → Bytes) (sc : Script) (calls more : List Call)
    (h : terminal (run H sc calls) = true) : run H sc (calls ++ more) = run H sc calls := by
  rw [run_append, foldl_apply_terminal H _ more h]

/-- Stop ends a running session with the error `stopped` (culprit: the local party, `C04.culprits_table`) … -/
theorem stop_running_errors (H : Bytes → Bytes) (sc : Script) (calls : List Call)
    (h : terminal (run H sc calls) = false) :
    let s := Handler.stop (run H sc calls)
    s.err = some .stopped ∧ s.result = none ∧ s.closes = 1 := by
  rcases lifecycle H sc calls with l | d
  · simp [Handler.stop, h, abort, l.1, l.2.2]
  · rw [terminal_of_done d] at h; cases h

/-- … and is harmless on a finished one -/
theorem stop_finished_noop (H : Bytes → Bytes) (sc : Script) (calls : List Call)
    (h : terminal (run H sc calls) = true) : Handler.stop (run H sc calls) = run H sc calls :=
  stop_terminal _ h

/-- a message that CanAccept refuses changes nothing when delivered anyway -/
theorem not_canAccept_noop (H : Bytes → Bytes) (s : State) (m : Msg) (h : canAccept s m = false) :
    Handler.accept H s m = s := accept_refused H s m h

/-- a duplicate (same round, sender and kind already stored) changes nothing -/
theorem duplicate_noop (H : Bytes → Bytes) (s : State) (m : Msg) (h : duplicate s m = true) :
    Handler.accept H s m = s := accept_duplicate H s m h

/-- The correspondence driver admits an observed verdict when SOME order of replaying the queued messages of a newly
    entered round produces it (Go ranges over a map there; `Mps.Drv.Handler.acceptO`). The alternatives differ from the
    model proved about here only in that order: with the id order they ARE the model's `accept`. -/
theorem replay_order_alternatives_are_the_model (H : Bytes → Bytes) (s : State) (m : Msg) :
    Mps.Drv.Handler.acceptO H s.sc.ids s m = accept H s m := Mps.Drv.Handler.acceptO_ids H s m

/-! ### The same for `TwoPartyHandler` (model: Mps.TwoParty) -/

section twoparty
open Mps.TwoParty

/-- lifecycle invariant of the two-party handler, for every script and every sequence of calls -/
theorem twoparty_lifecycle (sc : Script2) (calls : List Call2) : Good2 (run2 sc calls) := run2_good sc calls

theorem twoparty_close_at_most_once (sc : Script2) (calls : List Call2) : (run2 sc calls).closes ≤ 1 := by
  rw [((good2_iff _).mp (run2_good sc calls)).1]
  split <;> decide

theorem twoparty_closed_iff_ended (sc : Script2) (calls : List Call2) :
    (run2 sc calls).closes = 1 ↔ terminal2 (run2 sc calls) = true := by
  rw [((good2_iff _).mp (run2_good sc calls)).1]
  split <;> simp [*]

theorem twoparty_ended_is_final (sc : Script2) (calls more : List Call2) (h : terminal2 (run2 sc calls) = true) :
    run2 sc (calls ++ more) = run2 sc calls := by
  unfold run2 at *
  rw [List.foldl_append]
  generalize List.foldl apply2 (init2 sc) calls = s at h
  induction more with
  | nil => rfl
  | cons c cs ih => rw [List.foldl_cons, apply2_terminal s c h]; exact ih

theorem twoparty_stop_running_errors (sc : Script2) (calls : List Call2) (h : terminal2 (run2 sc calls) = false) :
    (stop2 (run2 sc calls)).err = some .stopped ∧ (stop2 (run2 sc calls)).closes = 1 := by
  have l := (run2_good sc calls).live h
  simp [stop2, h, abort2, l.1]
end twoparty

/-- every exported method of both handlers takes the handler mutex for its whole body
    (first statement `Lock`, second `defer Unlock`) — so concurrent calls are serialised and
    every concurrent history is one of the sequential histories quantified over above -/
theorem gen_lock_discipline :
    MpsGen.Session.multiHandlerLocks =
      ["Result: h.mtx.Lock(); defer h.mtx.Unlock()", "Listen: h.mtx.Lock(); defer h.mtx.Unlock()",
       "CanAccept: h.mtx.Lock(); defer h.mtx.Unlock()", "Accept: h.mtx.Lock(); defer h.mtx.Unlock()",
       "Stop: h.mtx.Lock(); defer h.mtx.Unlock()"] ∧
    MpsGen.Session.twoPartyHandlerLocks =
      ["Result: h.mtx.Lock(); defer h.mtx.Unlock()", "Listen: h.mtx.Lock(); defer h.mtx.Unlock()",
       "Stop: h.mtx.Lock(); defer h.mtx.Unlock()", "CanAccept: h.mtx.Lock(); defer h.mtx.Unlock()",
       "Accept: h.mtx.Lock(); defer h.mtx.Unlock()"] :=
  ⟨rfl, rfl⟩

/-- the out channels hold every message of a session (at most N per round plus the abort notice): the
    constructor and Accept never block on a consumer that is not reading yet -/
theorem gen_out_capacity : MpsGen.Session.outCapacity =
    [ "make(chan *Message, (int(r.FinalRoundNumber())+1)*(r.N()+1))", "make(chan *Message, int(r.FinalRoundNumber())+2)" ] := rfl

/-- `Stop` as modelled: returns at once when the session has ended, aborts otherwise -/
theorem gen_stop :
    MpsGen.Session.multiHandlerStop = ["h.err != nil || h.result != nil => ", "h.abort(errors.New(\"aborted by user\"), h.currentRound.SelfID())"] ∧
    MpsGen.Session.twoPartyHandlerStop = ["h.err != nil || h.result != nil => ", "h.abort(errors.New(\"aborted by user\"))"] :=
  ⟨rfl, rfl⟩

def demoScript : Script :=
  { ids := [str "a", str "b"], self := str "a", final := 2,
    rounds := [⟨1, false, false⟩, ⟨2, false, true⟩], proto := str "demo", ssid := [1], sess := [], finErrAt := 0 }

def demoMsg : Msg :=
  { ssid := some [1], frm := str "b", to := str "a", proto := str "demo", rnd := 2, data := some [0], bcast := false,
    bv := none, dec := some ⟨7, 0⟩ }

-- a running handler exists; it ends with a result after the peer's message; Stop ends a running one; one close
example : terminal (run (fun b => b) demoScript []) = false := by decide
example : (run (fun b => b) demoScript [.accept demoMsg]).result = some 7 := by decide
example : (run (fun b => b) demoScript [.stop]).err = some .stopped := by decide
example : (run (fun b => b) demoScript [.accept demoMsg, .stop, .accept demoMsg]).closes = 1 := by decide

end Mps.C17
