import MpsProps.Anchors.C07
import MpsProofs.Handler
import MpsProps.HandlerSrc
import MpsProofs.Order
import MpsProps.C07TwoParty
import MpsProps.C07TwoPartySystem
import MpsProofs.System
import MpsProofs.SessionEval
/-
  C07 — Outcome is independent of delivery order, duplication and early arrival: one handler of the n-party model,
  then a session of n of them (the two-party handler: MpsProps/C07TwoParty.lean, C07TwoPartySystem.lean).

  One handler: `order_independent` (the argument is laid out at the head of MpsProofs/Order.lean). The elementary
  facts about single deliveries (`refused_noop` … `early_message_is_only_queued`) hold for arbitrary, also dishonest,
  messages. A session (model Mps/System.lean, lemmas MpsProofs/System.lean): under any causal schedule what is emitted
  for a party is an `Honest` set (`emitted_honest`), so the first part applies to every party; nobody aborts
  (`no_honest_abort`), a party's outcome depends on the set delivered to it only (`schedule_independent`), and a fair
  schedule ends with the closed-form results (`complete_schedule_completes`).
-/
namespace Mps.C07
open Mps.Handler

/-- a message CanAccept refuses changes nothing when delivered anyway (whole state) -/
theorem refused_noop (H : Bytes → Bytes) (s : State) (m : Msg) (h : canAccept s m = false) : accept H s m = s :=
  accept_refused H s m h

/-- a second copy of a message (same round, sender and kind already stored) changes nothing -/
theorem duplicate_noop (H : Bytes → Bytes) (s : State) (m : Msg) (h : duplicate s m = true) : accept H s m = s :=
  accept_duplicate H s m h

/-- messages of rounds the handler has left are refused -/
theorem stale_refused (s : State) (m : Msg) (h1 : 0 < m.rnd) (h2 : m.rnd < s.cur) : canAccept s m = false :=
  not_acceptable fun a => a.notStale.elim (Nat.not_le_of_gt h2) (Nat.ne_of_gt h1)

/-- messages of another session or protocol are refused -/
theorem foreign_refused (s : State) (m : Msg) (h : m.ssid.getD [] ≠ s.sc.ssid ∨ m.proto ≠ s.sc.proto) :
    canAccept s m = false :=
  not_acceptable fun a => h.elim (· a.ssid) (· a.proto)

/-- after the end every message is ignored -/
theorem after_end_noop (H : Bytes → Bytes) (s : State) (m : Msg) (h : terminal s = true) : accept H s m = s :=
  accept_terminal H s m h

/-- a message for a later round is stored and nothing else happens: no verification, no output, no verdict -/
theorem early_message_is_only_queued (H : Bytes → Bytes) (s : State) (m : Msg) (h : (store s m).cur ≠ m.rnd)
    (h0 : m.rnd ≠ 0) (hc : (!canAccept s m || terminal s || duplicate s m) = false) : accept H s m = store s m := by
  have : (m.rnd == 0) = false := by simpa using h0
  simp [accept, hc, this, acceptStored, h]

/-- everything observable about a handler: verdict, result, round position, protocol state, the emitted
    messages in order, the echo-hash table — every field of the state except the script (constant: `run_sc`) and the
    two internal message queues -/
def outcome (s : State) :=
  (s.err, s.result, s.cur, s.acc, s.out, s.closes, s.idx, s.reached, s.bh, s.accused)

theorem outcome_feq {a b : State} (h : FEq a b) : outcome a = outcome b := by
  obtain ⟨_, e2, e3, e4, e5, e6, e7, e8, e9, e10, e11⟩ := h.fields
  unfold outcome
  rw [e2, e3, e4, e5, e6, e7, e8, e9, e10, e11]

-- `h2` is not needed: it follows from `h1` and `hsame`
set_option linter.unusedVariables false in
/-- ORDER INDEPENDENCE. For every hash `H`, every script `sc` and every honest message set `M`
    (`Honest H sc M`, a decidable predicate: well-formed script; every message addressed to this party in this
    session, of the kind its round expects, decodable and without failure flags, stamped with the session's echo
    hash `expBh` of the preceding round; no two different messages for one (round, sender, kind)):
    any two delivery sequences `l1`, `l2` of messages from `M` that deliver the same SET of messages — in any
    order, with any repetitions, with messages of later rounds arriving arbitrarily early, and not necessarily
    all of `M` — leave the handler with the same outcome. -/
theorem order_independent (H : Bytes → Bytes) (sc : Script) (M : List Msg) (hM : Honest H sc M) (l1 l2 : List Msg)
    (h1 : ∀ m ∈ l1, m ∈ M) (h2 : ∀ m ∈ l2, m ∈ M) (hsame : ∀ m, m ∈ l1 ↔ m ∈ l2) :
    outcome (run H sc (l1.map Call.accept)) = outcome (run H sc (l2.map Call.accept)) :=
  outcome_feq (run_feq hM l1 l2 h1 hsame)

-- `h2` is not needed: it follows from `h1` and `hsame`
set_option linter.unusedVariables false in
/-- … and while the session is still running the two message queues hold the same entries too (they may be
    filled in another order), so the two handlers also behave alike on every further input -/
theorem order_independent_queues (H : Bytes → Bytes) (sc : Script) (M : List Msg) (hM : Honest H sc M)
    (l1 l2 : List Msg) (h1 : ∀ m ∈ l1, m ∈ M) (h2 : ∀ m ∈ l2, m ∈ M) (hsame : ∀ m, m ∈ l1 ↔ m ∈ l2)
    (hrun : terminal (run H sc (l1.map Call.accept)) = false) :
    Sim (run H sc (l1.map Call.accept)) (run H sc (l2.map Call.accept)) :=
  run_sim hM l1 l2 h1 hsame hrun

/-- two states related by `Sim` stay related under ANY further call (not only honest deliveries) -/
theorem sim_congruence (H : Bytes → Bytes) (a b : State) (h : Sim a b) (calls : List Call) :
    Sim (calls.foldl (apply H) a) (calls.foldl (apply H) b) :=
  List.foldl_rel h fun c _ _ _ hc => apply_sim H hc c

/-- re-delivering messages that were already delivered changes nothing -/
theorem redelivery_irrelevant (H : Bytes → Bytes) (sc : Script) (M : List Msg) (hM : Honest H sc M)
    (l extra : List Msg) (h1 : ∀ m ∈ l, m ∈ M) (h2 : ∀ m ∈ extra, m ∈ l) :
    outcome (run H sc ((l ++ extra).map Call.accept)) = outcome (run H sc (l.map Call.accept)) := by
  apply order_independent H sc M hM
  · intro m hm
    rcases List.mem_append.mp hm with h | h
    · exact h1 m h
    · exact h1 m (h2 m h)
  · exact h1
  · intro m
    simp only [List.mem_append]
    exact ⟨fun h => h.elim id (h2 m), Or.inl⟩

/-- any schedule that is a permutation-with-repetitions of a reference schedule `ref` (for instance the
    in-order one) gives the result of `ref` -/
theorem schedule_gives_reference_outcome (H : Bytes → Bytes) (sc : Script) (M : List Msg) (hM : Honest H sc M)
    (ref sched : List Msg) (href : ∀ m ∈ ref, m ∈ M) (h1 : ∀ m ∈ sched, m ∈ ref) (h2 : ∀ m ∈ ref, m ∈ sched) :
    outcome (run H sc (sched.map Call.accept)) = outcome (run H sc (ref.map Call.accept)) :=
  order_independent H sc M hM sched ref (fun m hm => href m (h1 m hm)) href (fun m => ⟨h1 m, h2 m⟩)

/-- the common outcome is never a verdict against anybody: whatever the order, duplication or earliness of the
    honest messages, the handler does not abort with a message failure, an echo mismatch or a protocol abort
    (the only error left is the own `Finalize` failure the script itself prescribes via `finErrAt`), and every
    echo hash it computes is the session's `expBh` — the value `Honest` asks the peers' messages to carry -/
theorem honest_delivery_never_blames (H : Bytes → Bytes) (sc : Script) (M : List Msg) (hM : Honest H sc M)
    (l : List Msg) (hl : ∀ m ∈ l, m ∈ M) :
    ((run H sc (l.map Call.accept)).err = none ∨ (run H sc (l.map Call.accept)).err = some .finalizeErr) ∧
    ∀ r h, bhLookup (run H sc (l.map Call.accept)).bh r = some h → expBh H sc M r = some h :=
  ⟨(run_clean hM l hl).2, (run_clean hM l hl).1⟩

/-! ### non-vacuity: a concrete session (3 parties; rounds 1, 2 (broadcast), 3 (broadcast + p2p), 4 (p2p)) -/

namespace Ex
/-- a toy hash (length and byte sum); the theorems hold for every `H` -/
def Hx : Bytes → Bytes := fun b => [UInt8.ofNat b.length, UInt8.ofNat (b.foldl (fun a x => a + x.toNat) 0)]
def sc3 : Script := ⟨[[1], [2], [3]], [1], 4,
  [⟨1, false, false⟩, ⟨2, true, false⟩, ⟨3, true, true⟩, ⟨4, false, true⟩], [7], [9], [], 0⟩
def mk (frm to : Bytes) (r : Nat) (b : Bool) (bv : Option Bytes) : Msg :=
  { ssid := some sc3.ssid, frm := frm, to := to, proto := sc3.proto, rnd := r,
    data := some (cborContent ⟨honestV sc3 frm to r, 0⟩), bcast := b, bv := bv, dec := some ⟨honestV sc3 frm to r, 0⟩ }
/-- what parties 2 and 3 send to party 1 (the echo hashes of rounds 2 and 3 under `Hx` are 5a4e and 5a61) -/
def M3 : List Msg :=
  [mk [2] [] 2 true none, mk [3] [] 2 true none,
   mk [2] [] 3 true (some [90, 78]), mk [3] [] 3 true (some [90, 78]),
   mk [2] [1] 3 false (some [90, 78]), mk [3] [1] 3 false (some [90, 78]),
   mk [2] [1] 4 false (some [90, 97]), mk [3] [1] 4 false (some [90, 97])]
/-- the in-order schedule is `M3` itself; this one is reversed (every message arrives early, p2p before
    broadcast) with repetitions -/
def sched : List Msg := M3.reverse ++ M3.take 3 ++ M3.reverse

-- `+kernel` here and below: plain `decide` first runs the handler in the elaborator, three times as dear as the
-- kernel's own run and over the default recursion limit
theorem honest : Honest Hx sc3 M3 := by decide +kernel
theorem sched_sub : ∀ m ∈ sched, m ∈ M3 := by decide
theorem sched_all : ∀ m ∈ M3, m ∈ sched := by decide
theorem sched_ne : sched ≠ M3 := by decide

/-- the hypotheses of `order_independent` are satisfiable, with two different schedules -/
example : outcome (run Hx sc3 (sched.map Call.accept)) = outcome (run Hx sc3 (M3.map Call.accept)) :=
  schedule_gives_reference_outcome Hx sc3 M3 honest M3 sched (fun _ h => h) sched_sub sched_all

-- the session of the example really completes: the scrambled schedule ends with the protocol's result, the
-- handler's own echo-hash table being the one the peers stamped their messages with
set_option maxRecDepth 1000000 in
example : (run Hx sc3 (sched.map Call.accept)).result = some 20064 ∧ (run Hx sc3 (sched.map Call.accept)).err = none ∧
    (run Hx sc3 (sched.map Call.accept)).bh = [(2, [90, 78]), (3, [90, 97])] := by decide +kernel

theorem still_running : terminal (run Hx sc3 ((M3.take 3).reverse.map Call.accept)) = false := by decide +kernel

/-- … and of `order_independent_queues` (a session that is still running) -/
example : Sim (run Hx sc3 ((M3.take 3).reverse.map Call.accept)) (run Hx sc3 ((M3.take 3).map Call.accept)) :=
  order_independent_queues Hx sc3 M3 honest _ _ (by decide) (by decide) (fun _ => List.mem_reverse) still_running
end Ex

-- the hypothesis of `refused_noop` can be met
example : ∃ s m, canAccept s m = false := ⟨default, default, by decide⟩

/-! ### multi-party composition

  The theorems above are about ONE handler that is given an `Honest` message set. From here on: a session of n
  handlers that all run the script `base`, under any `Causal` schedule (Mps/System.lean has the model and says what it
  assumes about the network; MpsProofs/System.lean has the side conditions `SessionOk base`, with the reason for each,
  and the lemmas). -/

open Mps.System

/-- the state of a party in the session is its handler run on exactly the messages delivered to it (this ties the
    system model to the single-handler theorems above; no hypothesis) -/
theorem party_state_is_handler_run (H : Bytes → Bytes) (base : Script) (sched : Sched) (p : Bytes) :
    (Sys.run H base sched) p = run H (scriptFor base p) ((delivered sched p).map Call.accept) :=
  run_apply H base sched p

/-- a delivery `(p, m)` is possible in a reachable session state exactly when `p` is a party and `m` is among the
    messages emitted so far (by whichever party) that are addressed to `p`: the handlers stamp their own id into
    `From`, so naming the sender by that field in `Sys.canDeliver` loses nothing (no hypothesis) -/
theorem causal_step_iff (H : Bytes → Bytes) (base : Script) (sched : Sched) (p : Bytes) (m : Msg) :
    (Sys.run H base sched).canDeliver base p m = true ↔
      p ∈ base.ids ∧ m ∈ (Sys.run H base sched).emittedFor base p :=
  canDeliver_iff_emitted H base sched p m

/-- (a) MULTI-PARTY COMPOSITION. For every hash `H`, every common script `base` with `SessionOk base`, EVERY causal
    schedule and every party `p`: the list of all messages emitted so far (by anybody) that are addressed to `p`
    is an `Honest` message set for `p` — in particular every sender's echo stamp is `p`'s expected value `expBh`,
    and there are no two different messages for one (round, sender, kind) -/
theorem emitted_honest (H : Bytes → Bytes) (base : Script) (ok : SessionOk base) (sched : Sched)
    (hc : Causal H base sched = true) (p : Bytes) (hp : p ∈ base.ids) :
    Honest H (scriptFor base p) ((Sys.run H base sched).emittedFor base p) :=
  System.emitted_honest ok sched hc p hp

/-- what a causal schedule delivers to `p` is part of the set of `emitted_honest`: the hypotheses of
    `order_independent` / `honest_delivery_never_blames` hold for every party of the session -/
theorem delivered_are_emitted (H : Bytes → Bytes) (base : Script) (sched : Sched) (hc : Causal H base sched = true)
    (p : Bytes) : ∀ m ∈ delivered sched p, m ∈ (Sys.run H base sched).emittedFor base p :=
  delivered_emitted H base sched p _ hc

/-- agreement on the broadcasts: there is ONE function `gEcho H base` of the round number (a closed form of the
    script: the hash over all parties' scripted broadcasts of that round) such that every echo hash in every
    party's table is its value — and is the value `expBh` the party expects from its peers — and every emitted
    message is stamped with its value for the preceding round number -/
theorem echo_tables_agree (H : Bytes → Bytes) (base : Script) (ok : SessionOk base) (sched : Sched)
    (hc : Causal H base sched = true) :
    (∀ p ∈ base.ids, ∀ r h, bhLookup ((Sys.run H base sched) p).bh r = some h →
      gEcho H base r = some h ∧ expBh H (scriptFor base p) ((Sys.run H base sched).emittedFor base p) r = some h) ∧
    (∀ q ∈ base.ids, ∀ m ∈ ((Sys.run H base sched) q).out, m.bv = gEcho H base (m.rnd - 1)) :=
  ⟨fun p hp r h hb => tables_agree ok sched hc p hp r h hb, fun q hq m hm => emitted_stamp ok sched hc q hq m hm⟩

/-- (b) in every state the session reaches under a causal schedule, no party has an error: no message failure, no
    echo mismatch, no protocol abort, no peer abort (and no own failure either) -/
theorem no_honest_abort (H : Bytes → Bytes) (base : Script) (ok : SessionOk base) (sched : Sched)
    (hc : Causal H base sched = true) (p : Bytes) (hp : p ∈ base.ids) : ((Sys.run H base sched) p).err = none :=
  System.no_honest_abort ok sched hc p hp

/-- (c) SCHEDULE INDEPENDENCE. Two causal schedules of the whole session — whatever they do at the other parties —
    that have delivered the same SET of messages to `p` leave `p` with the same outcome. (The proof uses the
    causality of the first schedule only: `c2` is not needed, the second schedule may be arbitrary.) -/
theorem schedule_independent (H : Bytes → Bytes) (base : Script) (ok : SessionOk base) (s1 s2 : Sched)
    (c1 : Causal H base s1 = true) (_c2 : Causal H base s2 = true) (p : Bytes) (hp : p ∈ base.ids)
    (hsame : ∀ m, m ∈ delivered s1 p ↔ m ∈ delivered s2 p) :
    outcome ((Sys.run H base s1) p) = outcome ((Sys.run H base s2) p) :=
  outcome_feq (schedule_feq ok s1 s2 c1 p hp hsame)

/-- (d) COMPLETION. A causal schedule that is fair to the end (`Complete`: everything emitted for a party has been
    delivered to it) leaves EVERY party ended, without error, with the result `sessionValue base p` — a closed
    formula: the sum over the rounds after the first and over the other parties `q` of the scripted values
    `honestV` of `q`'s broadcast and of `q`'s p2p message to `p`; the messages it has emitted are, in order, the
    closed-form list `idealOut`; the messages emitted for it are the closed-form list `idealFor`; and its whole
    outcome is the outcome of the reference run: its handler alone, given the list `idealFor` in order -/
theorem complete_schedule_completes (H : Bytes → Bytes) (base : Script) (ok : SessionOk base) (sched : Sched)
    (hc : Causal H base sched = true) (hfair : Complete base (Sys.run H base sched) sched = true) (p : Bytes)
    (hp : p ∈ base.ids) :
    terminal ((Sys.run H base sched) p) = true ∧ ((Sys.run H base sched) p).err = none ∧
    ((Sys.run H base sched) p).result = some (sessionValue base p) ∧
    ((Sys.run H base sched) p).out = idealOut H base p ∧
    (Sys.run H base sched).emittedFor base p = idealFor H base p ∧
    outcome ((Sys.run H base sched) p) = outcome (run H (scriptFor base p) ((idealFor H base p).map Call.accept)) := by
  obtain ⟨h1, _, h3, h4, h5⟩ := System.complete_schedule_completes ok sched hc hfair p hp
  exact ⟨all_terminal ok sched hc hfair p hp, h1, complete_value ok sched hc hfair p hp, h3, h4, outcome_feq h5⟩

/-- the closed formula, spelled out -/
theorem sessionValue_eq (base : Script) (p : Bytes) :
    sessionValue base p = ((base.rounds.drop 1).map fun sp => ((base.ids.filter (· != p)).map fun q =>
      (if sp.recvB then honestV base q [] sp.num else 0) + (if sp.recvP then honestV base q p sp.num else 0)).sum).sum :=
  rfl

/-! non-vacuity: the 3-party, 4-round session of `Ex` (round 2: broadcast, 3: broadcast + p2p, 4: p2p) as a system -/
namespace ExSys
open Ex

def b2 (q : Bytes) : Msg := mk q [] 2 true none
def b3 (q : Bytes) : Msg := mk q [] 3 true (some [90, 78])
def p3 (q p : Bytes) : Msg := mk q p 3 false (some [90, 78])
def p4 (q p : Bytes) : Msg := mk q p 4 false (some [90, 97])

/-- NOT in order: party 2 finishes round 2 first; party 1 gets round-3 messages (p2p before broadcast) while it is
    still in round 2, a duplicate, and party 2 gets a round-4 message while it is in round 3 -/
def sched : Sched :=
  [([2], b2 [1]), ([2], b2 [3]),
   ([1], p3 [2] [1]), ([1], b3 [2]),
   ([3], b2 [2]), ([3], b2 [1]),
   ([1], b2 [3]), ([1], b2 [2]), ([1], b2 [3]),
   ([1], p3 [3] [1]), ([1], b3 [3]),
   ([2], p4 [1] [2]),
   ([2], p3 [3] [2]), ([2], p3 [1] [2]), ([2], b3 [3]), ([2], b3 [1]),
   ([3], p3 [1] [3]), ([3], b3 [2]), ([3], b3 [1]), ([3], p3 [2] [3]),
   ([1], p4 [2] [1]), ([1], p4 [3] [1]),
   ([2], p4 [3] [2]),
   ([3], p4 [1] [3]), ([3], p4 [2] [3])]

/-- the round-by-round schedule -/
def inorder : Sched :=
  [([1], b2 [2]), ([1], b2 [3]), ([2], b2 [1]), ([2], b2 [3]), ([3], b2 [1]), ([3], b2 [2]),
   ([1], b3 [2]), ([1], b3 [3]), ([1], p3 [2] [1]), ([1], p3 [3] [1]),
   ([2], b3 [1]), ([2], b3 [3]), ([2], p3 [1] [2]), ([2], p3 [3] [2]),
   ([3], b3 [1]), ([3], b3 [2]), ([3], p3 [1] [3]), ([3], p3 [2] [3]),
   ([1], p4 [2] [1]), ([1], p4 [3] [1]), ([2], p4 [1] [2]), ([2], p4 [3] [2]), ([3], p4 [1] [3]), ([3], p4 [2] [3])]

theorem session_ok : SessionOk sc3 := by decide

/-- the schedule `sched`, walked once: it is causal, fair to the end, and these are the three results (each of these
    facts on its own would run the three handlers again) -/
theorem sched_checked : ∃ τ, walk (Sys.canDeliver sc3) Hx (Sys.init Hx sc3) [] sched = some τ ∧
    Complete sc3 ((Sys.init Hx sc3).over τ) sched = true ∧ (((Sys.init Hx sc3).over τ [1]).result = some 20064 ∧
      ((Sys.init Hx sc3).over τ [2]).result = some 16104 ∧ ((Sys.init Hx sc3).over τ [3]).result = some 12144) := by
  have h : ((walk (Sys.canDeliver sc3) Hx (Sys.init Hx sc3) [] sched).any fun τ =>
      Complete sc3 ((Sys.init Hx sc3).over τ) sched && decide (((Sys.init Hx sc3).over τ [1]).result = some 20064 ∧
        ((Sys.init Hx sc3).over τ [2]).result = some 16104 ∧ ((Sys.init Hx sc3).over τ [3]).result = some 12144)) = true := by
    decide +kernel
  obtain ⟨τ, hτ, hp⟩ := (Option.any_eq_true _ _).mp h
  rw [Bool.and_eq_true, decide_eq_true_eq] at hp
  exact ⟨τ, hτ, hp⟩

theorem sched_run_eq {τ : List (Bytes × State)} (h : walk (Sys.canDeliver sc3) Hx (Sys.init Hx sc3) [] sched = some τ) :
    Sys.run Hx sc3 sched = (Sys.init Hx sc3).over τ :=
  (walk_checked (g := causalFrom Hx sc3) (fun _ => rfl) (fun _ _ _ => rfl) h).2

theorem sched_causal : Causal Hx sc3 sched = true :=
  let ⟨_, h, _⟩ := sched_checked
  (walk_checked (g := causalFrom Hx sc3) (fun _ => rfl) (fun _ _ _ => rfl) h).1
theorem inorder_causal : Causal Hx sc3 inorder = true :=
  checked_of_walk (ok := Sys.canDeliver sc3) (g := causalFrom Hx sc3) (fun _ => rfl) (fun _ _ _ => rfl) (by decide +kernel)
/-- rounds of the messages delivered to party 1, in the order of delivery -/
theorem sched_not_in_order : (delivered sched [1]).map (·.rnd) = [3, 3, 2, 2, 2, 3, 3, 4, 4] := by decide
theorem same_sets : (∀ m ∈ delivered sched [1], m ∈ delivered inorder [1]) ∧
    (∀ m ∈ delivered inorder [1], m ∈ delivered sched [1]) := by decide
theorem sched_complete : Complete sc3 (Sys.run Hx sc3 sched) sched = true :=
  let ⟨_, h, hc, _⟩ := sched_checked
  sched_run_eq h ▸ hc

/-- the hypotheses of (a), (b) are satisfiable -/
example : Honest Hx (scriptFor sc3 [2]) ((Sys.run Hx sc3 sched).emittedFor sc3 [2]) :=
  emitted_honest Hx sc3 session_ok sched sched_causal [2] (by decide)
example : ((Sys.run Hx sc3 sched) [3]).err = none := no_honest_abort Hx sc3 session_ok sched sched_causal [3] (by decide)
/-- … of (c), with two different schedules -/
example : outcome ((Sys.run Hx sc3 sched) [1]) = outcome ((Sys.run Hx sc3 inorder) [1]) :=
  schedule_independent Hx sc3 session_ok sched inorder sched_causal inorder_causal [1] (by decide)
    (fun m => ⟨same_sets.1 m, same_sets.2 m⟩)
/-- … and of (d) -/
example : ((Sys.run Hx sc3 sched) [2]).out = idealOut Hx sc3 [2] :=
  (complete_schedule_completes Hx sc3 session_ok sched sched_causal sched_complete [2] (by decide)).2.2.2.1

example : sessionValue sc3 [1] = 20064 ∧ sessionValue sc3 [2] = 16104 ∧ sessionValue sc3 [3] = 12144 := by decide

-- the values the kernel computes for this session: results of the three parties, and the one echo function
set_option maxRecDepth 1000000 in
example : ((Sys.run Hx sc3 sched) [1]).result = some 20064 ∧ ((Sys.run Hx sc3 sched) [2]).result = some 16104 ∧
    ((Sys.run Hx sc3 sched) [3]).result = some 12144 :=
  let ⟨_, h, _, hr⟩ := sched_checked
  sched_run_eq h ▸ hr
set_option maxRecDepth 100000 in
example : gEcho Hx sc3 2 = some [90, 78] ∧ gEcho Hx sc3 3 = some [90, 97] ∧ gEcho Hx sc3 4 = none := by decide +kernel
end ExSys

end Mps.C07
