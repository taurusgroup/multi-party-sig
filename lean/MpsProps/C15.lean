import MpsProps.Anchors.C15
import MpsProofs.Codec
import MpsGen.Codec
import Mps.GuardTables
/-
  C15 — Stored key material round-trips; malformed material is refused.

  Model: Mps.Codec — the decision logic of the restore paths over a field-tree abstraction of the encoding
  (field ↦ absent | null | degenerate | good): cmp `Config.UnmarshalBinary`, the types restored by default struct
  decoding into their Empty… templates (frost / doerner configs, PreSignature, Signature), `Message.UnmarshalBinary`
  and `Exponent.UnmarshalBinary` with an explicit allocation count. `fixed = true` is the tree with the
  guards, `fixed = false` the tree as found; which one applies is read off the regenerated tables (`gen_*`).

  Full statements (all trees of fields): restore_ok_imp_wellformed, restore_never_silent_empty, restore_total,
  alloc_linear_in_input. For the tree as found they are false: `…_counterexample`, each witness replayed by suite
  `codec` on the real decoders. The round trip itself (encode → restore → equal, usable in a follow-up session with
  the other parties' material) and the judgement of every corrupted encoding are correspondence (suite `codec`):
  the CBOR byte syntax belongs to the third-party decoder and is exercised, not modelled.
-/
namespace Mps.C15
open Mps.Start Mps.Codec

/-- guarded decoder: a config that is restored satisfies the validity rules: non-zero secrets, valid primes, valid RID,
    chain key absent or valid, every party's record complete (2048-bit odd modulus, Pedersen parameters, non-identity
    points), no duplicate and no empty party id, self present, 0 ≤ t < n -/
theorem restore_ok_imp_wellformed (t : CmpTree) (h : cmpRestore true t = Out.ok) : CmpWellFormed t :=
  (cmpRestore_true (by decide) t h).1

/-- guarded decoder: no path other than ok / error -/
theorem restore_total (t : CmpTree) : cmpRestore true t ≠ Out.crash :=
  fun h => nomatch (cmpRestore_true (by decide) t h).2

def goodPub (id : Bytes) : PubTree := ⟨id, .good, .good, .good, .good, .good⟩
def goodTree : CmpTree :=
  { topNull := false, id := [97], thr := 1, ecdsa := .good, elgamal := .good, p := .good, q := .good, rid := .good,
    chainKey := .good, pub := [goodPub [97], goodPub [98], goodPub [99]] }

/-- tree as found: a malformed chain key or RID, and absent Pedersen parameters in the own record, are accepted -/
theorem unchecked_fields_counterexample :
    (∃ t, cmpRestore false t = Out.ok ∧ ¬ CmpWellFormed t ∧ t.chainKey = FV.bad) ∧
    (∃ t, cmpRestore false t = Out.ok ∧ ¬ CmpWellFormed t ∧ t.rid = FV.absent) ∧
    (∃ t, cmpRestore false t = Out.ok ∧ ¬ CmpWellFormed t ∧ ∃ e ∈ t.pub, e.id = t.id ∧ e.s = FV.absent) := by
  refine ⟨⟨{ goodTree with chainKey := .bad }, by decide, ?_, rfl⟩, ⟨{ goodTree with rid := .absent }, by decide, ?_, rfl⟩,
    ⟨{ goodTree with pub := [{ goodPub [97] with s := .absent }, goodPub [98]] }, by decide, ?_, _, List.mem_cons_self, rfl, rfl⟩⟩
  · intro h; exact absurd h.2.2.2.2.2.2.2.1 (by decide)
  · intro h; exact absurd h.2.2.2.2.2.2.1 (by decide)
  · intro h; exact absurd (h.2.2.2.2.2.2.2.2.1 _ List.mem_cons_self).2.1 (by decide)

/-- tree as found: a CBOR null for the whole config or for a pre-allocated scalar crashes the decoder -/
theorem null_crash_counterexample :
    cmpRestore false { goodTree with topNull := true } = Out.crash ∧
    cmpRestore false { goodTree with ecdsa := .null } = Out.crash ∧
    cmpRestore false { goodTree with pub := [{ goodPub [98] with ecdsa := .null }] } = Out.crash := by decide

/-- guarded decoders: what is restored is never the untouched template and always satisfies its validity rules; no crash -/
theorem restore_never_silent_empty (i : PlainIn) :
    ((plainRestore true i).1 = Out.ok → (plainRestore true i).2 = false ∧ i.rulesHold = true ∧ i.topNull = false) ∧
    (plainRestore true i).1 ≠ Out.crash := by
  obtain ⟨a, b, c⟩ := i
  cases a <;> cases b <;> cases c <;> simp [plainRestore]

theorem message_never_silent_empty (decodes isNull : Bool) :
    ((messageRestore true decodes isNull).1 = Out.ok → (messageRestore true decodes isNull).2 = false ∧ decodes = true) ∧
    (messageRestore true decodes isNull).1 ≠ Out.crash := by
  cases decodes <;> cases isNull <;> simp [messageRestore]

/-- tree as found: a CBOR null restores "successfully" into the empty template, a null point / scalar crashes the
    decoder, an object that breaks its rules is accepted, and Message.UnmarshalBinary swallows every decoding error -/
theorem silent_empty_counterexample :
    plainRestore false ⟨true, false, false⟩ = (Out.ok, true) ∧
    plainRestore false ⟨false, true, true⟩ = (Out.crash, false) ∧
    plainRestore false ⟨false, false, false⟩ = (Out.ok, false) ∧
    messageRestore false false false = (Out.ok, true) := by decide

/-- guarded decoder: the number of points allocated is at most the length of the input, for EVERY input -/
theorem alloc_linear_in_input (i : ExpIn) : (exponentDecode true i).2 ≤ i.len := by
  rw [exponentDecode_true]
  split <;> omega

/-- guarded decoder: no crash, and a decoded exponent has as many coefficients as announced and at least one unless constant -/
theorem exponent_ok_imp_wellformed (i : ExpIn) :
    (exponentDecode true i).1 ≠ Out.crash ∧
    ((exponentDecode true i).1 = Out.ok → i.coeffs = some i.count ∧ i.nullCoeff = false ∧ (i.isConstant = true ∨ 0 < i.count)) := by
  rw [exponentDecode_true]
  split
  · exact ⟨nofun, nofun⟩
  · split
    · next h => exact ⟨nofun, fun _ => h⟩
    · exact ⟨nofun, nofun⟩

/-- tree as found: four bytes of input make the decoder allocate any number of points below 2³², fewer than four
    bytes crash it, and so does a null coefficient -/
theorem alloc_unbounded_counterexample :
    (∀ n, ∃ i : ExpIn, i.len = 4 ∧ (exponentDecode false i).2 = n) ∧
    (∀ i : ExpIn, i.len < 4 → (exponentDecode false i).1 = Out.crash) ∧
    (exponentDecode false ⟨100, 2, some 2, true, false⟩).1 = Out.crash := by
  refine ⟨fun n => ⟨⟨4, n, none, false, false⟩, rfl, by simp [exponentDecode]⟩, ?_, by decide⟩
  intro i h
  simp [exponentDecode, h]

/-- the driver's judgement of a described restored object: every rule of its type holds, party ids strictly sorted
    (so pairwise different), none empty, self among them, 0 ≤ t < n -/
theorem descOk_iff (rules : List Bool) (thr : Int) (ids : List Bytes) (self : Bytes) :
    descOk rules thr ids self = true ↔
      (∀ r ∈ rules, r = true) ∧ idsValid ids = true ∧ self ∈ ids ∧ (∀ i ∈ ids, i ≠ []) ∧ 0 ≤ thr ∧ thr < ids.length := by
  simp only [descOk, Bool.and_eq_true, List.all_eq_true, id, List.contains_iff_mem, bne_iff_ne, decide_eq_true_eq,
    and_assoc]

theorem descOk_nodup (rules : List Bool) (thr : Int) (ids : List Bytes) (self : Bytes) (h : descOk rules thr ids self = true) :
    ids.Nodup := idsValid_nodup _ ((descOk_iff rules thr ids self).1 h).2.1

open Mps.Guards.Pinned in
/-- every restore path has its guards: each regenerated table equals the variant `fixed` of Mps/GuardTables.lean (`head` there is
    the tree as found, which the counterexamples are about) -/
theorem gen_restore_tables :
    MpsGen.Codec.cmpUnmarshalBinary = fixed.cmpUnmarshalBinary ∧
    MpsGen.Codec.cmpUnmarshalDecode = fixed.cmpUnmarshalDecode ∧
    MpsGen.Codec.messageUnmarshalBinary = fixed.messageUnmarshalBinary ∧
    MpsGen.Codec.frostUnmarshalCBOR = fixed.frostUnmarshalCBOR ∧
    MpsGen.Codec.taprootUnmarshalCBOR = fixed.taprootUnmarshalCBOR ∧
    MpsGen.Codec.doernerReceiverUnmarshalCBOR = fixed.doernerReceiverUnmarshalCBOR ∧
    MpsGen.Codec.doernerSenderUnmarshalCBOR = fixed.doernerSenderUnmarshalCBOR ∧
    MpsGen.Codec.presigUnmarshalCBOR = fixed.presigUnmarshalCBOR ∧
    MpsGen.Codec.signatureUnmarshalCBOR = fixed.signatureUnmarshalCBOR ∧
    MpsGen.Codec.otSendSetupFields = fixed.otSendSetupFields :=
  ⟨rfl, rfl, rfl, rfl, rfl, rfl, rfl, rfl, rfl, rfl⟩

open Mps.Guards.Pinned in
/-- the validators the restore paths rely on are the pinned ones: a restored prime is checked for size, 3 mod 4, primality
    of p AND of (p-1)/2 (the tree as found tested only (p-1)/2: a composite p was accepted - `head.validatePrime`); a
    modulus for bit length and oddness; Pedersen parameters for membership in Z_N^* and s ≠ t; a RID for its length and
    for not being zero; frost / doerner configs for the rules of `Config.Validate` -/
theorem gen_validators :
    MpsGen.Codec.validatePrime = fixed.validatePrime ∧ MpsGen.Codec.validateN = fixed.validateN ∧
    MpsGen.Codec.pedersenValidateParameters = fixed.pedersenValidateParameters ∧
    MpsGen.Codec.ridValidate = fixed.ridValidate ∧
    MpsGen.Codec.frostConfigValidate = fixed.frostConfigValidate ∧
    MpsGen.Codec.taprootConfigValidate = fixed.taprootConfigValidate ∧
    MpsGen.Codec.frostValidateShares = fixed.frostValidateShares ∧
    MpsGen.Codec.doernerReceiverValidate = fixed.doernerReceiverValidate ∧
    MpsGen.Codec.doernerSenderValidate = fixed.doernerSenderValidate :=
  ⟨rfl, rfl, rfl, rfl, rfl, rfl, rfl, rfl, rfl⟩

/-- the tree as found did not test p itself (kept: the pinned `head` table) -/
theorem validatePrime_head_lacks_primality :
    "!p.Big().ProbablyPrime(1) || !pMinus1Div2.Big().ProbablyPrime(1) => ErrNotSafePrime" ∈ Mps.Guards.Pinned.fixed.validatePrime ∧
    "!p.Big().ProbablyPrime(1) || !pMinus1Div2.Big().ProbablyPrime(1) => ErrNotSafePrime" ∉ Mps.Guards.Pinned.head.validatePrime := by
  simp [Mps.Guards.Pinned.fixed.validatePrime, Mps.Guards.Pinned.head.validatePrime]

example : cmpRestore true goodTree = Out.ok := by decide
example : cmpRestore false goodTree = Out.ok := by decide
example : (plainRestore true ⟨false, false, true⟩).1 = Out.ok := by decide
example : exponentDecode true ⟨100, 2, some 2, false, false⟩ = (Out.ok, 2) := by decide
example : descOk [true, true] 1 [[97], [98]] [97] = true := by decide

end Mps.C15
