import MpsProps.Anchors.C12
import MpsProofs.Paillier
import MpsProofs.PaillierBigKey
import MpsProofs.Frame
import MpsGen.Paillier
import Mathlib.Tactic.NormNum.Prime
/-
  C12 — Paillier encryption and MtA are exact on their full domain.

  Model: `Mps.Paillier` (lean/Mps/Paillier.lean), an executable big-integer implementation of
  pkg/paillier, arith.Modulus (CRT Exp/ExpI) and internal/mta.newMta; lemmas in MpsProofs/Paillier*.lean.
  Every theorem quantifies over ALL inputs: all key pairs (p, q) of distinct primes with
  gcd(pq, (p−1)(q−1)) = 1 (`KeyOK`), all plaintexts, nonces, ciphertexts, signed scalars.
  Both code paths are covered: `(SecretKey.ofPrimes p q).pk` (CRT exponentiation, a key derived from
  a secret key) and `enc N` / `PublicKey.ofN N` (plain exponentiation, `NewPublicKey`).
  Every statement about `Dec` is proved the same way: the ciphertext has the form `PForm N c v`
  (c = (1+N)^v · ρ^N in `ZMod N²`), which `EncWithNonce`, `Add` and `Mul` preserve on either path, and
  `PForm.dec` decrypts anything of that form to the centred representative of v mod N.

  Tie to /repo: `gen_*` below (the transcribed function bodies and the evaluated params constants,
  regenerated by the translator on every run) and the bit-exact differential of suite `paillier`.
-/
namespace Mps.C12
open Mps.Paillier

variable {p q : ℕ}

/-! ## the two exponentiation paths -/

/-- **crt_exp_eq**: for coprime factors `P`, `Q` (any, not only primes: the code uses (p, q) and (p², q²))
    `arith.Modulus.Exp` with the factorisation equals plain modular exponentiation, all `x`, `e`. -/
theorem crt_exp_eq (P Q x e : ℕ) (hP : 0 < P) (hQ : 0 < Q) (hc : Nat.Coprime P Q) :
    (Modulus.ofFactors P Q).exp x e = x ^ e % (P * Q) ∧
    (Modulus.ofFactors P Q).exp x e = (Modulus.ofN (P * Q)).exp x e := by
  rw [(Modulus.computes_ofFactors hP hQ hc).exp_eq, (Modulus.computes_ofN _).exp_eq]; exact ⟨rfl, rfl⟩

/-- **crt_expI_eq**: the same for signed exponents — for EVERY base, unit or not (on a non-unit both
    paths invert the same residue; what that inverse is, is left open by saferith, see `expI_unit`). -/
theorem crt_expI_eq (P Q x : ℕ) (e : ℤ) (hP : 0 < P) (hQ : 0 < Q) (hc : Nat.Coprime P Q) :
    (Modulus.ofFactors P Q).expI x e = (Modulus.ofN (P * Q)).expI x e := by
  rw [(Modulus.computes_ofFactors hP hQ hc).expI_eq, (Modulus.computes_ofN _).expI_eq]

/-- on a unit, `ExpI` with a negative exponent is THE inverse of the positive power -/
theorem expI_unit (n x : ℕ) (e : ℤ) (hn : 0 < n) (hx : Nat.Coprime x n) (he : e < 0) :
    (Modulus.ofN n).expI x e * x ^ e.natAbs ≡ 1 [MOD n] ∧ (Modulus.ofN n).expI x e < n := by
  rw [(Modulus.computes_ofN n).expI_eq]
  refine ⟨(ZMod.natCast_eq_natCast_iff _ _ _).mp ?_, expIVal_lt _ _ _ hn⟩
  -- in the unit group: x^e · x^|e| = x^0
  rw [Nat.cast_mul, cast_expIVal hn (ZMod.coe_unitOfCoprime x hx).symm e, Nat.cast_pow,
    ← ZMod.coe_unitOfCoprime x hx, ← Units.val_pow_eq_pow_val, ← Units.val_mul, ← zpow_natCast, ← zpow_add,
    Int.ofNat_natAbs_of_nonpos he.le, add_neg_cancel, zpow_zero, Units.val_one, Nat.cast_one]

/-! ## encryption: refusal and the two paths -/

/-- **enc_refuses_iff**: `EncWithNonce` refuses (the code panics) exactly when |m| > ⌊N/2⌋ — for every
    modulus, plaintext and nonce; in particular the refusal does not depend on the nonce. -/
theorem enc_refuses_iff (N : ℕ) (m : ℤ) (r : ℕ) : enc N m r = none ↔ N / 2 < m.natAbs :=
  PublicKey.enc_eq_none_iff _ m r

/-- for an odd modulus that bound is (N−1)/2: accepted ⇔ m ∈ [−(N−1)/2, (N−1)/2], endpoints included -/
theorem enc_refuses_iff_odd (N : ℕ) (m : ℤ) (r : ℕ) (hodd : N % 2 = 1) :
    enc N m r = none ↔ ((N : ℤ) - 1) / 2 < |m| := by
  have : ((N : ℤ) - 1) / 2 = ((N / 2 : ℕ) : ℤ) := by omega
  rw [enc_refuses_iff, Int.abs_eq_natAbs, this, Nat.cast_lt]

theorem enc_refuses_iff_sk (p q : ℕ) (m : ℤ) (r : ℕ) :
    (SecretKey.ofPrimes p q).pk.enc m r = none ↔ (p * q) / 2 < m.natAbs :=
  PublicKey.enc_eq_none_iff _ m r

/-- the CRT path (key derived from a secret key) and the plain path (`NewPublicKey`) produce the same
    ciphertext or both refuse -/
theorem enc_sk_eq_enc (k : KeyOK p q) (m : ℤ) (r : ℕ) :
    (SecretKey.ofPrimes p q).pk.enc m r = enc (p * q) m r := by
  rw [k.computes.enc_eq, enc_eq]

/-! ## decryption inverts encryption -/

/-- **dec_enc**: for distinct primes with gcd(pq, (p−1)(q−1)) = 1, EVERY plaintext with
    |m| ≤ (pq−1)/2 (endpoints included) and every nonce coprime to N: encryption succeeds and
    decryption returns m. -/
theorem dec_enc (k : KeyOK p q) (m : ℤ) (r : ℕ) (hm : m.natAbs ≤ (p * q - 1) / 2)
    (hr : Nat.Coprime r (p * q)) :
    ∃ c, enc (p * q) m r = some c ∧ (SecretKey.ofPrimes p q).pk.enc m r = some c ∧
         c < (p * q) * (p * q) ∧ (SecretKey.ofPrimes p q).dec c = some m := by
  have hm' := k.half_pred_eq ▸ hm
  have h₁ := (PublicKey.computes_ofN (p * q)).enc_of_le hm' r
  exact ⟨_, h₁, k.computes.enc_of_le hm' r, encVal_lt _ _ _ k.pos,
    PForm.dec_eq (PForm.of_enc k.pos hr h₁) k hm⟩

/-- zero decrypts to the value 0 but as saferith's NEGATIVE zero (sign bit set): `SetModSymmetric`
    prefers the negated representative on a tie. (`saferith.Int.Eq` identifies ±0; recorded so that the
    bit-exact differential can compare the sign bit.) -/
theorem dec_zero_sign (p q c : ℕ) (sa : Bool × ℕ)
    (h : (SecretKey.ofPrimes p q).decSA c = some sa) (h0 : saToInt sa = 0) : sa = (true, 0) := by
  rw [SecretKey.decSA_eq] at h
  split at h
  · rw [← Option.some.inj h] at h0 ⊢
    exact symmSA_eq_of_toInt_eq_zero _ _ h0
  · simp at h

/-! ## homomorphic operations agree with integer arithmetic exactly when the result is in range -/

/-- **add_hom**: Dec(c₁ ⊕ c₂) = m₁ + m₂ over ℤ whenever |m₁ + m₂| ≤ (N−1)/2 — all plaintexts, nonces;
    both `Add` code paths. -/
theorem add_hom (k : KeyOK p q) (m₁ m₂ : ℤ) (r₁ r₂ c₁ c₂ : ℕ)
    (h₁ : enc (p * q) m₁ r₁ = some c₁) (h₂ : enc (p * q) m₂ r₂ = some c₂)
    (hr₁ : Nat.Coprime r₁ (p * q)) (hr₂ : Nat.Coprime r₂ (p * q))
    (hsum : (m₁ + m₂).natAbs ≤ (p * q - 1) / 2) :
    (SecretKey.ofPrimes p q).dec ((SecretKey.ofPrimes p q).pk.add c₁ c₂) = some (m₁ + m₂) ∧
    (PublicKey.ofN (p * q)).add c₁ c₂ = (SecretKey.ofPrimes p q).pk.add c₁ c₂ := by
  have hf := (PForm.of_enc k.pos hr₁ h₁).add k.computes (PForm.of_enc k.pos hr₂ h₂)
  exact ⟨PForm.dec_eq hf k hsum, by rw [k.computes.add_eq, (PublicKey.computes_ofN _).add_eq]⟩

/-- **hom_in_range_only (add)**: when the integer sum leaves [−(N−1)/2, (N−1)/2] the decryption is the
    wrapped value, never the sum — the side condition of `add_hom` is necessary. -/
theorem add_hom_only_in_range (k : KeyOK p q) (m₁ m₂ : ℤ) (r₁ r₂ c₁ c₂ : ℕ)
    (h₁ : enc (p * q) m₁ r₁ = some c₁) (h₂ : enc (p * q) m₂ r₂ = some c₂)
    (hr₁ : Nat.Coprime r₁ (p * q)) (hr₂ : Nat.Coprime r₂ (p * q))
    (hsum : (p * q - 1) / 2 < (m₁ + m₂).natAbs) :
    (SecretKey.ofPrimes p q).dec ((SecretKey.ofPrimes p q).pk.add c₁ c₂) ≠ some (m₁ + m₂) :=
  PForm.dec_ne ((PForm.of_enc k.pos hr₁ h₁).add k.computes (PForm.of_enc k.pos hr₂ h₂)) k hsum

/-- **mul_hom**: Dec(s ⊙ c) = s·m over ℤ for every SIGNED scalar `s` (negative scalars go through
    `ModInverse`) whenever |s·m| ≤ (N−1)/2; both `Mul` code paths agree. -/
theorem mul_hom (k : KeyOK p q) (m s : ℤ) (r c : ℕ)
    (h : enc (p * q) m r = some c) (hr : Nat.Coprime r (p * q))
    (hprod : (m * s).natAbs ≤ (p * q - 1) / 2) :
    (SecretKey.ofPrimes p q).dec ((SecretKey.ofPrimes p q).pk.mul c s) = some (m * s) ∧
    (PublicKey.ofN (p * q)).mul c s = (SecretKey.ofPrimes p q).pk.mul c s := by
  have hf := (PForm.of_enc k.pos hr h).mul k.computes s
  exact ⟨PForm.dec_eq hf k hprod, by rw [k.computes.mul_eq, (PublicKey.computes_ofN _).mul_eq]⟩

/-- **hom_in_range_only (mul)** -/
theorem mul_hom_only_in_range (k : KeyOK p q) (m s : ℤ) (r c : ℕ)
    (h : enc (p * q) m r = some c) (hr : Nat.Coprime r (p * q))
    (hprod : (p * q - 1) / 2 < (m * s).natAbs) :
    (SecretKey.ofPrimes p q).dec ((SecretKey.ofPrimes p q).pk.mul c s) ≠ some (m * s) :=
  PForm.dec_ne ((PForm.of_enc k.pos hr h).mul k.computes s) k hprod

/-! ## ciphertext validation -/

/-- **validate_iff_unit_lt**: `ValidateCiphertexts` accepts exactly the units below N²
    (0 is rejected because gcd(0, N²) = N² ≠ 1). All N > 1, all c. -/
theorem validate_iff_unit_lt (N c : ℕ) (hN : 1 < N) :
    validateCiphertext N c = true ↔ 0 < c ∧ c < N * N ∧ Nat.gcd c (N * N) = 1 := by
  rw [validateCiphertext_iff, iff_and_self]
  rintro ⟨_, h⟩
  refine Nat.pos_of_ne_zero ?_
  rintro rfl
  rw [Nat.Coprime, Nat.gcd_zero_left] at h
  exact absurd (Nat.eq_one_of_mul_eq_one_right h) hN.ne'

theorem validate_iff_coprime_N (N c : ℕ) :
    validateCiphertext N c = true ↔ c < N * N ∧ Nat.Coprime c N :=
  (validateCiphertext_iff N c).trans
    (and_congr_right fun _ => ⟨Nat.Coprime.coprime_mul_left_right, fun h => h.mul_right h⟩)

theorem validate_sk_eq (p q c : ℕ) :
    (SecretKey.ofPrimes p q).pk.validate c = validateCiphertext (p * q) c :=
  validate_eq (sk_N2 p q) c

/-- every ciphertext `EncWithNonce` outputs for a nonce coprime to N is accepted -/
theorem enc_validates (N : ℕ) (m : ℤ) (r c : ℕ) (hN : 0 < N) (hr : Nat.Coprime r N)
    (h : enc N m r = some c) : validateCiphertext N c = true :=
  (PForm.of_enc hN hr h).validate

/-- `Dec` refuses exactly the ciphertexts validation rejects -/
theorem dec_refuses_iff (p q c : ℕ) :
    (SecretKey.ofPrimes p q).dec c = none ↔ validateCiphertext (p * q) c = false := by
  rw [SecretKey.dec, SecretKey.decSA_eq, validate_sk_eq]
  cases validateCiphertext (p * q) c <;> simp

/-! ## the recovered randomness re-encrypts to the same ciphertext -/

/-- **dec_with_randomness_reencrypts**, on honest ciphertexts: `DecWithRandomness(Enc(m; ρ))` returns
    `m` and the nonce reduced mod N, and encrypting `m` with it gives back the ciphertext. -/
theorem dec_with_randomness_enc (k : KeyOK p q) (m : ℤ) (ρ c : ℕ)
    (h : enc (p * q) m ρ = some c) (hρ : Nat.Coprime ρ (p * q)) :
    (SecretKey.ofPrimes p q).decWithRandomness c = some (m, ρ % (p * q)) ∧
    enc (p * q) m (ρ % (p * q)) = some c := by
  obtain ⟨hm, rfl⟩ := (PublicKey.computes_ofN _).enc_eq_some_iff.mp h
  have hdec := PForm.dec_eq (PForm.of_enc k.pos hρ h) k (k.half_pred_eq ▸ hm)
  constructor
  · rw [dwr_eq k, hdec, Option.map_some, nonceOf_encVal k m hρ]
  · exact (PublicKey.computes_ofN _).enc_eq_some_iff.mpr ⟨hm, (encVal_nonce_mod _ m ρ).symm⟩

/-- **dec_with_randomness_reencrypts**, full strength: for EVERY ciphertext `c` that validation accepts
    (honestly generated or not) `DecWithRandomness` succeeds with some `(m, r)`, `r` is a unit mod N,
    `m` is in range, and `EncWithNonce(m, r) = c`. In particular every unit below N² is a ciphertext. -/
theorem dec_with_randomness_reencrypts (k : KeyOK p q) (c : ℕ)
    (hv : validateCiphertext (p * q) c = true) :
    ∃ m r, (SecretKey.ofPrimes p q).decWithRandomness c = some (m, r) ∧
           Nat.Coprime r (p * q) ∧ r < p * q ∧ m.natAbs ≤ (p * q - 1) / 2 ∧
           enc (p * q) m r = some c ∧ (SecretKey.ofPrimes p q).pk.enc m r = some c := by
  obtain ⟨hlt, hcop⟩ := (validate_iff_coprime_N _ _).mp hv
  obtain ⟨m, hdec, hle, henc⟩ := exists_encVal_eq k hlt hcop
  exact ⟨m, _, by rw [dwr_eq k, hdec, Option.map_some], (nonceOf_spec k hcop).1, Nat.mod_lt _ k.pos,
    k.half_pred_eq ▸ hle, (PublicKey.computes_ofN _).enc_eq_some_iff.mpr ⟨hle, henc⟩,
    k.computes.enc_eq_some_iff.mpr ⟨hle, henc⟩⟩

/-! ## MtA -/

/-- **mta_exact**: for every sender share `a`, receiver share `b` (encrypted as `B` under the receiver's
    key with any unit nonce), every sampled β′ and nonces: if β′ is encryptable and a·b + β′ is in the
    plaintext range, then `newMta` succeeds, the receiver decrypts D to α with α + β = a·b over ℤ,
    and F decrypts (under the sender's key) to β′ = −β. -/
theorem mta_exact {p q p' q' : ℕ} (kr : KeyOK p q) (ks : KeyOK p' q') (a b β' : ℤ) (ρ s r B : ℕ)
    (hB : enc (p * q) b ρ = some B) (hρ : Nat.Coprime ρ (p * q))
    (hs : Nat.Coprime s (p * q)) (hr : Nat.Coprime r (p' * q'))
    (hβr : β'.natAbs ≤ (p * q - 1) / 2) (hβs : β'.natAbs ≤ (p' * q' - 1) / 2)
    (hrange : (a * b + β').natAbs ≤ (p * q - 1) / 2) :
    ∃ out, mta (SecretKey.ofPrimes p' q').pk (SecretKey.ofPrimes p q).pk a B β' s r = some out ∧
      out.beta = -β' ∧
      ∃ α, mtaAlpha (SecretKey.ofPrimes p q) out.d = some α ∧ α + out.beta = a * b ∧
           (SecretKey.ofPrimes p' q').dec out.f = some β' := by
  have e1 := ks.computes.enc_of_le (ks.half_pred_eq ▸ hβs) r
  have e2 := kr.computes.enc_of_le (kr.half_pred_eq ▸ hβr) s
  have hf := (PForm.enc kr.computes kr.pos hs e2).add kr.computes
    ((PForm.of_enc kr.pos hρ hB).mul kr.computes a)
  rw [add_comm β', mul_comm b] at hf
  exact ⟨_, mta_eq_some a B e1 e2, rfl, a * b + β', PForm.dec_eq hf kr hrange,
    add_neg_cancel_right _ _, PForm.dec_eq (PForm.enc ks.computes ks.pos hr e1) ks hβs⟩

/-- stated apart from `mta_range_of` so that `omega` sees these two hypotheses only -/
theorem le_half_of_lt {X N t : ℕ} (hN : 8 * X ≤ N) (ht : t < X + X) : t ≤ (N - 1) / 2 := by omega

/-- the range argument of MtA for any parameters with `2·sec ≤ ℓ′` and `2^(ℓ′+3) ≤ N`:
    `|a·b + β′| < 2^(ℓ′+1) ≤ N/4` -/
theorem mta_range_of {k l N : ℕ} {a b β' : ℤ} (hkl : 2 * k ≤ l) (hN : 2 ^ (l + 3) ≤ N)
    (ha0 : 0 ≤ a) (ha : a < 2 ^ k) (hb0 : 0 ≤ b) (hb : b < 2 ^ k) (hβ : β'.natAbs < 2 ^ l) :
    β'.natAbs ≤ (N - 1) / 2 ∧ (a * b + β').natAbs ≤ (N - 1) / 2 := by
  have key : ∀ t : ℕ, t < 2 ^ l + 2 ^ l → t ≤ (N - 1) / 2 := fun t =>
    le_half_of_lt ((by ring : 8 * 2 ^ l = 2 ^ (l + 3)).trans_le hN)
  have hab : a * b < ((2 ^ l : ℕ) : ℤ) :=
    calc a * b < 2 ^ k * 2 ^ k := mul_lt_mul'' ha hb ha0 hb0
      _ = 2 ^ (2 * k) := by rw [← pow_add, two_mul]
      _ ≤ 2 ^ l := pow_le_pow_right₀ (by norm_num) hkl
      _ = ((2 ^ l : ℕ) : ℤ) := by push_cast; rfl
  have hab' := Int.natAbs_lt_natAbs_of_nonneg_of_lt (mul_nonneg ha0 hb0) hab
  rw [Int.natAbs_natCast] at hab'
  exact ⟨key _ (Nat.lt_add_left _ hβ), key _ ((Int.natAbs_add_le _ _).trans_lt (Nat.add_lt_add hab' hβ))⟩

/-- the range side condition of `mta_exact`, discharged from the constants of internal/params
    (`gen_params`): scalars below 2^SecParam (curve order q < 2²⁵⁶), |β′| < 2^LPrime as `sampleNeg(LPrime)`
    produces, and a modulus of BitsPaillier bits. -/
theorem mta_range (N : ℕ) (a b β' : ℤ) (hN : 2 ^ (bitsPaillier - 1) ≤ N)
    (ha0 : 0 ≤ a) (ha : a < 2 ^ secParam) (hb0 : 0 ≤ b) (hb : b < 2 ^ secParam)
    (hβ : β'.natAbs < 2 ^ paramLPrime) :
    β'.natAbs ≤ (N - 1) / 2 ∧ (a * b + β').natAbs ≤ (N - 1) / 2 :=
  mta_range_of (by decide) ((Nat.pow_le_pow_right Nat.two_pos (by decide)).trans hN) ha0 ha hb0 hb hβ

/-- **mta_exact_params**: `mta_exact` with the range conditions discharged for curve scalars and
    BitsPaillier-bit moduli: α + β = a·b over ℤ, hence also modulo the curve order. -/
theorem mta_exact_params {p q p' q' : ℕ} (kr : KeyOK p q) (ks : KeyOK p' q') (a b β' : ℤ) (ρ s r B : ℕ)
    (hNr : 2 ^ (bitsPaillier - 1) ≤ p * q) (hNs : 2 ^ (bitsPaillier - 1) ≤ p' * q')
    (ha0 : 0 ≤ a) (ha : a < 2 ^ secParam) (hb0 : 0 ≤ b) (hb : b < 2 ^ secParam)
    (hβ : β'.natAbs < 2 ^ paramLPrime)
    (hB : enc (p * q) b ρ = some B) (hρ : Nat.Coprime ρ (p * q))
    (hs : Nat.Coprime s (p * q)) (hr : Nat.Coprime r (p' * q')) (qord : ℤ) :
    ∃ out α, mta (SecretKey.ofPrimes p' q').pk (SecretKey.ofPrimes p q).pk a B β' s r = some out ∧
      mtaAlpha (SecretKey.ofPrimes p q) out.d = some α ∧ α + out.beta = a * b ∧
      (α % qord + out.beta % qord) % qord = (a * b) % qord := by
  obtain ⟨h1, h2⟩ := mta_range (p * q) a b β' hNr ha0 ha hb0 hb hβ
  obtain ⟨h3, _⟩ := mta_range (p' * q') a b β' hNs ha0 ha hb0 hb hβ
  obtain ⟨out, ho, _, α, hα, hsum, _⟩ := mta_exact kr ks a b β' ρ s r B hB hρ hs hr h1 h3 h2
  exact ⟨out, α, ho, hα, hsum, by rw [← Int.add_emod, hsum]⟩

/-- `sampleNeg(bits)` stays strictly inside ±2^(8·(len−1)): with `bits/8 + 1` bytes read, |β′| < 2^bits -/
theorem sampleNeg_range (buf : List UInt8) : (sampleNeg buf).natAbs < 2 ^ (8 * (buf.length - 1)) := by
  rw [sampleNeg, natAbs_saToInt, pow_mul]
  cases buf with
  | nil => exact Nat.one_pos
  -- the magnitude is the big-endian value of the bytes after the sign byte
  | cons b rest => simpa [sampleNegSA, unbe] using unbe_lt rest

/-! ## non-vacuity: concrete instances of the hypotheses -/

/-- a toy key (the harness' real keys are 2048-bit; primality of those is not re-proved in Lean) -/
theorem keyOK_11_17 : KeyOK 11 17 :=
  ⟨by norm_num, by norm_num, by decide, by decide⟩

example : ∃ c, enc (11 * 17) (-93) 5 = some c ∧ (SecretKey.ofPrimes 11 17).dec c = some (-93) := by
  obtain ⟨c, h1, _, _, h2⟩ := dec_enc keyOK_11_17 (-93) 5 (by decide) (by decide)
  exact ⟨c, h1, h2⟩
example : (93 : ℤ).natAbs ≤ (11 * 17 - 1) / 2 ∧ Nat.Coprime 5 (11 * 17) := by decide
example : enc (11 * 17) 94 5 = none := (enc_refuses_iff _ _ _).mpr (by decide)
example : ((11 * 17 - 1) / 2 < ((60 : ℤ) + 40).natAbs) ∧ ((50 : ℤ) + 43).natAbs ≤ (11 * 17 - 1) / 2 := by decide
example : validateCiphertext (11 * 17) 2 = true ∧ validateCiphertext (11 * 17) 11 = false := by decide
example : (0 : ℕ) < 11 * 11 ∧ 0 < 17 * 17 ∧ Nat.Coprime (11 * 11) (17 * 17) := by decide
/-- the range hypotheses of `mta_exact_params` are satisfiable: a 2048-bit N, q−1-sized scalars, extreme β′ -/
example : (2 : ℕ) ^ (bitsPaillier - 1) ≤ 2 ^ 2047 + 1 ∧ ((2 : ℤ) ^ 256 - 1) < 2 ^ secParam ∧
    (-((2 ^ 1280 - 1 : ℕ) : ℤ)).natAbs < 2 ^ paramLPrime := by
  simp only [bitsPaillier, secParam, paramLPrime, Int.natAbs_neg, Int.natAbs_natCast]; norm_num
/-- **non-vacuity at real size**: a PROVED key of more than BitsPaillier bits (P = 3·2^2208+1, Q = 5·2^1947+1,
    Lucas primality checked by the kernel): `KeyOK` together with the size hypothesis of
    `mta_exact_params` is satisfiable. -/
theorem keyOK_2048 : ∃ p q, KeyOK p q ∧ 2 ^ (bitsPaillier - 1) ≤ p * q :=
  ⟨bigP, bigQ, keyOK_big, big_bits⟩

/-- `mta_exact` on the toy keys: a = 2, b = 3, β′ = −5 -/
example : ∃ out α, mta (SecretKey.ofPrimes 11 17).pk (SecretKey.ofPrimes 5 7).pk 2 ((enc (5 * 7) 3 2).getD 0) (-5) 3 4 = some out ∧
    mtaAlpha (SecretKey.ofPrimes 5 7) out.d = some α ∧ α + out.beta = 2 * 3 := by
  have k57 : KeyOK 5 7 := ⟨by norm_num, by norm_num, by decide, by decide⟩
  have hB : enc (5 * 7) 3 2 = some ((enc (5 * 7) 3 2).getD 0) := rfl
  obtain ⟨out, h1, _, α, h2, h3, _⟩ := mta_exact k57 keyOK_11_17 2 3 (-5) 2 3 4 _ hB (by decide) (by decide) (by decide)
    (by decide) (by decide) (by decide)
  exact ⟨out, α, h1, h2, h3⟩

/-! ## obligations over the regenerated tables (`MpsGen.Paillier`): what the model was transcribed from -/

def paramLine (name : String) (v : ℕ) : String := name ++ " = " ++ toString v

/-- the evaluated constants of internal/params the range argument uses ARE the model's constants -/
theorem gen_params : MpsGen.Paillier.paramValues =
    [ paramLine "SecParam" secParam, "SecBytes = 32", "OTParam = 128", "OTBytes = 16", "StatParam = 80",
      "ZKModIterations = 12", paramLine "L" paramL, paramLine "LPrime" paramLPrime,
      paramLine "Epsilon" paramEpsilon, "LPlusEpsilon = 768", "LPrimePlusEpsilon = 1792",
      "BitsIntModN = 2048", "BytesIntModN = 256", paramLine "BitsBlumPrime" bitsBlumPrime,
      paramLine "BitsPaillier" bitsPaillier, "BytesPaillier = 256", "BytesCiphertext = 512" ] := rfl

/-- `arith.Modulus`: CRT constants, `Exp` (CRT recombination) and `ExpI` (ModInverse of the |e|-th power on both paths) as transcribed by `Modulus.ofFactors/exp/expI` -/
theorem gen_modulus :
    MpsGen.Paillier.modulusFromFactors =
      [ "nNat := new(saferith.Nat).Mul(p, q, -1)",
        "nMod := saferith.ModulusFromNat(nNat)",
        "pMod := saferith.ModulusFromNat(p)",
        "qMod := saferith.ModulusFromNat(q)",
        "pInvQ := new(saferith.Nat).ModInverse(p, qMod)",
        "pNat := new(saferith.Nat).SetNat(p)",
        "return &Modulus{ Modulus: nMod, p: pMod, q: qMod, pNat: pNat, pInv: pInvQ, }" ] ∧
    MpsGen.Paillier.modulusExp =
      [ "if n.hasFactorization() { var xp, xq saferith.Nat xp.Exp(x, e, n.p) xq.Exp(x, e, n.q) r := xq.ModSub(&xq, &xp, n.Modulus) r.ModMul(r, n.pInv, n.Modulus) r.ModMul(r, n.pNat, n.Modulus) r.ModAdd(r, &xp, n.Modulus) return r }",
        "return new(saferith.Nat).Exp(x, e, n.Modulus)" ] ∧
    MpsGen.Paillier.modulusExpI =
      [ "if n.hasFactorization() { y := n.Exp(x, e.Abs()) inverted := new(saferith.Nat).ModInverse(y, n.Modulus) y.CondAssign(e.IsNegative(), inverted) return y }",
        "return new(saferith.Nat).ExpI(x, e, n.Modulus)" ] ∧
    MpsGen.Paillier.hasFactorization =
      [ "return n.p != nil && n.q != nil && n.pNat != nil && n.pInv != nil" ] :=
  ⟨rfl, rfl, rfl, rfl⟩

/-- key construction: N, N², N+1, φ, φ⁻¹ mod N, CRT moduli for (p, q) and (p², q²) -/
theorem gen_keys :
    MpsGen.Paillier.newPublicKey =
      [ "oneNat := new(saferith.Nat).SetUint64(1)",
        "nNat := n.Nat()",
        "nSquared := saferith.ModulusFromNat(new(saferith.Nat).Mul(nNat, nNat, -1))",
        "nPlusOne := new(saferith.Nat).Add(nNat, oneNat, -1)",
        "nPlusOne.Resize(nPlusOne.TrueLen())",
        "return &PublicKey{ n: arith.ModulusFromN(n), nSquared: arith.ModulusFromN(nSquared), nNat: nNat, nPlusOne: nPlusOne, }" ] ∧
    MpsGen.Paillier.newSecretKeyFromPrimes =
      [ "oneNat := new(saferith.Nat).SetUint64(1)",
        "n := arith.ModulusFromFactors(P, Q)",
        "nNat := n.Nat()",
        "nPlusOne := new(saferith.Nat).Add(nNat, oneNat, -1)",
        "nPlusOne.Resize(nPlusOne.TrueLen())",
        "pMinus1 := new(saferith.Nat).Sub(P, oneNat, -1)",
        "qMinus1 := new(saferith.Nat).Sub(Q, oneNat, -1)",
        "phi := new(saferith.Nat).Mul(pMinus1, qMinus1, -1)",
        "phiInv := new(saferith.Nat).ModInverse(phi, n.Modulus)",
        "pSquared := pMinus1.Mul(P, P, -1)",
        "qSquared := qMinus1.Mul(Q, Q, -1)",
        "nSquared := arith.ModulusFromFactors(pSquared, qSquared)",
        "return &SecretKey{ p: P, q: Q, phi: phi, phiInv: phiInv, PublicKey: &PublicKey{ n: n, nSquared: nSquared, nNat: nNat, nPlusOne: nPlusOne, }, }" ] ∧
    MpsGen.Paillier.validateN =
      [ "if n == nil { return ErrPaillierNil }",
        "nBig := n.Big()",
        "if bits := nBig.BitLen(); bits != params.BitsPaillier { return fmt.Errorf(\"have: %d, need %d: %w\", bits, params.BitsPaillier, ErrPaillierLength) }",
        "if nBig.Bit(0) != 1 { return ErrPaillierEven }",
        "return nil" ] :=
  ⟨rfl, rfl, rfl⟩

/-- `EncWithNonce`: the refusal test |m| > N>>1 and (N+1)^m · nonce^N mod N²; `Enc` draws a unit nonce -/
theorem gen_enc :
    MpsGen.Paillier.encWithNonce =
      [ "mAbs := m.Abs()",
        "nHalf := new(saferith.Nat).SetNat(pk.nNat)",
        "nHalf.Rsh(nHalf, 1, -1)",
        "if gt, _, _ := mAbs.Cmp(nHalf); gt == 1 { panic(\"paillier.Encrypt: tried to encrypt message outside of range [-(N-1)/2, …, (N-1)/2]\") }",
        "c := pk.nSquared.ExpI(pk.nPlusOne, m)",
        "rhoN := pk.nSquared.Exp(nonce, pk.nNat)",
        "c.ModMul(c, rhoN, pk.nSquared.Modulus)",
        "return &Ciphertext{c: c}" ] ∧
    MpsGen.Paillier.enc =
      [ "nonce := sample.UnitModN(rand.Reader, pk.n.Modulus)",
        "return pk.EncWithNonce(m, nonce), nonce" ] :=
  ⟨rfl, rfl⟩

/-- `ValidateCiphertexts`: nil, c < N², IsUnit -/
theorem gen_validate :
    MpsGen.Paillier.validateCiphertexts =
      [ "for _, ct := range cts { if ct == nil || ct.c == nil { return false } _, _, lt := ct.c.CmpMod(pk.nSquared.Modulus) if lt != 1 { return false } if ct.c.IsUnit(pk.nSquared.Modulus) != 1 { return false } }",
        "return true" ] := rfl

/-- `Dec` / `DecWithRandomness` -/
theorem gen_dec :
    MpsGen.Paillier.dec =
      [ "oneNat := new(saferith.Nat).SetUint64(1)",
        "n := sk.PublicKey.n.Modulus",
        "if !sk.PublicKey.ValidateCiphertexts(ct) { return nil, errors.New(\"paillier: failed to decrypt invalid ciphertext\") }",
        "phi := sk.phi",
        "phiInv := sk.phiInv",
        "result := sk.PublicKey.nSquared.Exp(ct.c, phi)",
        "result.Sub(result, oneNat, -1)",
        "result.Div(result, n, -1)",
        "result.ModMul(result, phiInv, n)",
        "return new(saferith.Int).SetModSymmetric(result, n), nil" ] ∧
    MpsGen.Paillier.decWithRandomness =
      [ "m, err := sk.Dec(ct)",
        "if err != nil { return nil, nil, err }",
        "mNeg := new(saferith.Int).SetInt(m).Neg(1)",
        "x := sk.n.ExpI(sk.nPlusOne, mNeg)",
        "x.ModMul(x, ct.c, sk.n.Modulus)",
        "nInverse := new(saferith.Nat).ModInverse(sk.nNat, saferith.ModulusFromNat(sk.phi))",
        "r := sk.n.Exp(x, nInverse)",
        "return m, r, nil" ] :=
  ⟨rfl, rfl⟩

/-- `Ciphertext.Add` / `Mul` -/
theorem gen_add_mul :
    MpsGen.Paillier.ctAdd =
      [ "if ct2 == nil { return ct }",
        "ct.c.ModMul(ct.c, ct2.c, pk.nSquared.Modulus)",
        "return ct" ] ∧
    MpsGen.Paillier.ctMul =
      [ "if k == nil { return ct }",
        "ct.c = pk.nSquared.ExpI(ct.c, k)",
        "return ct" ] :=
  ⟨rfl, rfl⟩

/-- `newMta`, the sign of Beta in ProveAffG/ProveAffP, `sampleNeg`, `MakeInt` -/
theorem gen_mta :
    MpsGen.Paillier.newMta =
      [ "BetaNeg = sample.IntervalLPrime(rand.Reader)",
        "F, R = sender.Enc(BetaNeg)",
        "D, S = receiver.Enc(BetaNeg)",
        "tmp := receiverEncryptedShare.Clone().Mul(receiver, senderSecretShare)",
        "D.Add(receiver, tmp)",
        "return" ] ∧
    MpsGen.Paillier.proveAffGBeta =
      [ "newMta(senderSecretShare, receiverEncryptedShare, sender, receiver)",
        "BetaNeg.Neg(1)" ] ∧
    MpsGen.Paillier.proveAffPBeta =
      [ "newMta(senderSecretShare, receiverEncryptedShare, sender, receiver)",
        "BetaNeg.Neg(1)" ] ∧
    MpsGen.Paillier.sampleNeg =
      [ "buf := make([]byte, bits/8+1)",
        "mustReadBits(rand, buf)",
        "neg := saferith.Choice(buf[0] & 1)",
        "buf = buf[1:]",
        "out := new(saferith.Int).SetBytes(buf)",
        "out.Neg(neg)",
        "return out" ] ∧
    MpsGen.Paillier.intervalLPrime =
      [ "return sampleNeg(rand, params.LPrime)" ] ∧
    MpsGen.Paillier.makeInt =
      [ "bytes, err := s.MarshalBinary()",
        "if err != nil { panic(err) }",
        "return new(saferith.Int).SetBytes(bytes)" ] :=
  ⟨rfl, rfl, rfl, rfl, rfl, rfl⟩

end Mps.C12
