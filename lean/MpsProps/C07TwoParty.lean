import MpsProofs.TwoPartyOrder
/-
  C07 (two-party handler) — Outcome is independent of delivery order, duplication, early arrival and late
  re-delivery, for the model of `protocol.TwoPartyHandler` (Mps/TwoParty.lean).

  Main theorem: `order_independent2` (lemmas in MpsProofs/TwoPartyOrder.lean). Unlike the n-party handler the
  two-party handler has no stale filter and no duplicate filter: `Accept` stores every acceptable message again
  (last write wins) and runs `advance`. The elementary facts about single deliveries (`refused_noop2` …
  `waiting_message_is_only_stored2`) hold for arbitrary, also dishonest, messages.
-/
namespace Mps.C07.TwoParty
open Mps.Handler Mps.TwoParty

/-- a message CanAccept refuses changes nothing when delivered anyway (whole state) -/
theorem refused_noop2 (s : State2) (m : Msg) (h : canAccept2 s m = false) : accept2 s m = s := by
  simp [accept2, h]

/-- after the end every message is ignored -/
theorem after_end_noop2 (s : State2) (m : Msg) (h : terminal2 s = true) : accept2 s m = s :=
  accept2_terminal s m h

/-- messages of another session or protocol, or from a party outside the session, are refused -/
theorem foreign_refused2 (s : State2) (m : Msg)
    (h : m.ssid.getD [] ≠ s.sc.ssid ∨ m.proto ≠ s.sc.proto ∨ m.frm ∉ s.sc.ids) : canAccept2 s m = false := by
  rcases h with h | h | h <;> simp [canAccept2, h]

/-- a message that is not the one the current round waits for (early, late, or the handler waits for another
    round) is stored — replacing an older one for its round number — and nothing else happens -/
theorem waiting_message_is_only_stored2 (s : State2) (m : Msg) (hw : canAdvance s = false) (hr : m.rnd ≠ s.cur)
    (h0 : m.rnd ≠ 0) (hc : (!canAccept2 s m || terminal2 s) = false) :
    accept2 s m = { s with msgs := put2 s.msgs m.rnd m } := by
  have e0 : (m.rnd == 0) = false := by simpa using h0
  have hl : lookup2 (put2 s.msgs m.rnd m) s.cur = lookup2 s.msgs s.cur := by
    rw [lookup2_put2]; simp [Ne.symm hr]
  unfold accept2
  simp only [hc, e0, Bool.false_eq_true, if_false]
  show advance (s.sc.rounds.length + 1) (setMsgs s (put2 s.msgs m.rnd m)) = _
  unfold advance
  rw [advanceStep_setMsgs s _ hl, advanceStep_stuck s hw]
  rfl

/-- everything observable about a two-party handler: verdict, result, round position, protocol state, the
    emitted messages in order, the close counter — every field of the state except the message store (and the script,
    which no call changes) -/
def outcome2 (s : State2) :=
  (s.err, s.result, s.cur, s.ended, s.acc, s.accuse, s.out, s.closes, s.idx)

theorem outcome2_feq {a b : State2} (h : FEq2 a b) : outcome2 a = outcome2 b := by
  rw [h.eq]; rfl

-- `h2` is not needed: it follows from `h1` and `hsame`
set_option linter.unusedVariables false in
/-- ORDER INDEPENDENCE (two-party handler). For every script `sc` (leader or follower) and every honest
    message set `M` (`Honest2 sc M`, a decidable predicate: the round numbers of the script are pairwise
    different; every message comes from the peer, is addressed to this party in this session and protocol,
    carries data, has a round number in 1 … final that belongs to a round of the script expecting input, is
    point-to-point, decodes, carries no flags; no two different messages for one round number):
    any two delivery sequences `l1`, `l2` of messages from `M` that deliver the same SET of messages — in any
    order, with any repetitions, with messages of later rounds arriving arbitrarily early, with messages of
    rounds already left re-delivered arbitrarily late, and not necessarily all of `M` — leave the handler with
    the same outcome. Two of these conditions only describe the peer's messages and are used by no proof: that the
    sender is the peer (`HonestMsg2.fromPeer`; a sender in the id list other than this party is what counts) and that the
    message is point-to-point (`HonestMsg2.p2p`; the handler never looks at the flag).

    Why `Honest2` asks for pairwise different round numbers (strictly increasing numbers are NOT needed):
    `Ex.dup_rounds_order_dependent`, a follower with the rounds 1 (expects input), 2 (silent), 2 (expects input) and the
    peer's messages for the numbers 1 and 2: delivered in this order the run has no error, in the other order it ends
    with `msgFail` (the message for number 2 already sits in the store when the silent round 2 is finalized, and
    `verifyMessage` fails on a round without `MessageContent`).
    Why it asks for at most one message per round number: the store is last-write-wins, see
    `Ex.conflicting_duplicates_order_dependent`. -/
theorem order_independent2 (sc : Script2) (M : List Msg) (hM : Honest2 sc M) (l1 l2 : List Msg)
    (h1 : ∀ m ∈ l1, m ∈ M) (h2 : ∀ m ∈ l2, m ∈ M) (hsame : ∀ m, m ∈ l1 ↔ m ∈ l2) :
    outcome2 (run2 sc (l1.map Call2.accept)) = outcome2 (run2 sc (l2.map Call2.accept)) :=
  outcome2_feq (run2_out hM l1 l2 h1 hsame).feq

-- `h2` is not needed: it follows from `h1` and `hsame`
set_option linter.unusedVariables false in
/-- under the hypotheses of `order_independent2`, while the session is still running the two message stores answer every
    lookup alike too (they may be laid out in another order), so the two handlers also behave alike on every further input -/
theorem order_independent2_store (sc : Script2) (M : List Msg) (hM : Honest2 sc M) (l1 l2 : List Msg)
    (h1 : ∀ m ∈ l1, m ∈ M) (h2 : ∀ m ∈ l2, m ∈ M) (hsame : ∀ m, m ∈ l1 ↔ m ∈ l2)
    (hrun : terminal2 (run2 sc (l1.map Call2.accept)) = false) :
    Sim2 (run2 sc (l1.map Call2.accept)) (run2 sc (l2.map Call2.accept)) :=
  run2_sim hM l1 l2 h1 hsame hrun

/-- two states related by `Sim2` (all fields equal, stores equal as lookup functions) stay related under ANY
    further call (not only honest deliveries) -/
theorem sim2_congruence (a b : State2) (h : Sim2 a b) (calls : List Call2) :
    Sim2 (calls.foldl apply2 a) (calls.foldl apply2 b) := by
  induction calls generalizing a b with
  | nil => exact h
  | cons c cs ih => exact ih _ _ (apply2_sim h c)

/-- re-delivering messages that were already delivered — also long after their round has been left — changes
    nothing -/
theorem redelivery_irrelevant2 (sc : Script2) (M : List Msg) (hM : Honest2 sc M)
    (l extra : List Msg) (h1 : ∀ m ∈ l, m ∈ M) (h2 : ∀ m ∈ extra, m ∈ l) :
    outcome2 (run2 sc ((l ++ extra).map Call2.accept)) = outcome2 (run2 sc (l.map Call2.accept)) := by
  apply order_independent2 sc M hM
  · intro m hm
    rcases List.mem_append.mp hm with h | h
    · exact h1 m h
    · exact h1 m (h2 m h)
  · exact h1
  · intro m
    simp only [List.mem_append]
    exact ⟨fun h => h.elim id (h2 m), Or.inl⟩

/-- any schedule that is a permutation-with-repetitions of a reference schedule `ref` (for instance the
    in-order one) gives the result of `ref` -/
theorem schedule_gives_reference_outcome2 (sc : Script2) (M : List Msg) (hM : Honest2 sc M)
    (ref sched : List Msg) (href : ∀ m ∈ ref, m ∈ M) (h1 : ∀ m ∈ sched, m ∈ ref) (h2 : ∀ m ∈ ref, m ∈ sched) :
    outcome2 (run2 sc (sched.map Call2.accept)) = outcome2 (run2 sc (ref.map Call2.accept)) :=
  order_independent2 sc M hM sched ref (fun m hm => href m (h1 m hm)) href (fun m => ⟨h1 m, h2 m⟩)

/-- the common outcome is never a verdict against the peer: whatever the order, duplication, earliness or
    lateness of the honest messages, the handler does not abort with a message failure, a peer abort or a
    protocol abort (the only error left is the own `Finalize` failure the script itself prescribes via
    `finErrAt`) -/
theorem honest_delivery_never_blames2 (sc : Script2) (M : List Msg) (hM : Honest2 sc M)
    (l : List Msg) (hl : ∀ m ∈ l, m ∈ M) :
    (run2 sc (l.map Call2.accept)).err = none ∨ (run2 sc (l.map Call2.accept)).err = some .finalizeErr :=
  run2_clean hM l hl

/-! ### non-vacuity: a concrete session (leader rounds 1, 2, 4, 6, 8; follower rounds 1, 3, 5, 7; final 8) -/

namespace Ex
def ids2 : List Bytes := [[97], [98]]
def leadSc : Script2 := ⟨ids2, [97], [98], 8,
  [⟨1, false, true, 1⟩, ⟨2, true, true, 3⟩, ⟨4, true, true, 5⟩, ⟨6, true, true, 7⟩, ⟨8, false, false, 0⟩], [7], [9], true, 0⟩
def follSc : Script2 := ⟨ids2, [98], [97], 8,
  [⟨1, true, true, 2⟩, ⟨3, true, true, 4⟩, ⟨5, true, true, 6⟩, ⟨7, true, false, 8⟩], [7], [9], false, 0⟩
/-- the message the peer of `sc` sends for round `r` of `sc` (exactly what the peer's model emits) -/
def mk (sc : Script2) (r : Nat) : Msg :=
  let c : Content := ⟨honestV { ids := sc.ids, self := sc.peer, final := 0, rounds := [], proto := [], ssid := [],
                                sess := [], finErrAt := 0 } sc.peer sc.self r, 0⟩
  { ssid := some sc.ssid, frm := sc.peer, to := sc.self, proto := sc.proto, rnd := r,
    data := some (cborContent c), bcast := false, bv := none, dec := some c }
/-- what the follower sends to the leader, and what the leader sends to the follower -/
def ML : List Msg := [mk leadSc 2, mk leadSc 4, mk leadSc 6]
def MF : List Msg := [mk follSc 1, mk follSc 3, mk follSc 5, mk follSc 7]
/-- scrambled schedules. Leader: round 4 arrives early, round 2 is delivered twice, the second time late (the
    handler has left rounds 2 and 4 and waits in round 6), round 4 late again, and round 2 once more after the
    end. Follower: rounds 5 and 3 early, round 1 twice and round 3 again (both late: the handler waits in round 7),
    round 5 after the end -/
def schedL : List Msg := [mk leadSc 4, mk leadSc 2, mk leadSc 2, mk leadSc 4, mk leadSc 6, mk leadSc 2]
def schedF : List Msg := [mk follSc 5, mk follSc 3, mk follSc 1, mk follSc 1, mk follSc 3, mk follSc 7, mk follSc 5]

theorem honestL : Honest2 leadSc ML := by decide
theorem honestF : Honest2 follSc MF := by decide
theorem schedL_sub : ∀ m ∈ schedL, m ∈ ML := by decide
theorem schedL_all : ∀ m ∈ ML, m ∈ schedL := by decide
theorem schedF_sub : ∀ m ∈ schedF, m ∈ MF := by decide
theorem schedF_all : ∀ m ∈ MF, m ∈ schedF := by decide
theorem schedL_ne : schedL ≠ ML := by decide

/-- the hypotheses of `order_independent2` are satisfiable, for a leader and for a follower, with schedules
    that differ from the in-order one -/
example : outcome2 (run2 leadSc (schedL.map Call2.accept)) = outcome2 (run2 leadSc (ML.map Call2.accept)) :=
  schedule_gives_reference_outcome2 leadSc ML honestL ML schedL (fun _ h => h) schedL_sub schedL_all
example : outcome2 (run2 follSc (schedF.map Call2.accept)) = outcome2 (run2 follSc (MF.map Call2.accept)) :=
  schedule_gives_reference_outcome2 follSc MF honestF MF schedF (fun _ h => h) schedF_sub schedF_all
example : outcome2 (run2 leadSc ((ML ++ [mk leadSc 2, mk leadSc 2]).map Call2.accept)) =
    outcome2 (run2 leadSc (ML.map Call2.accept)) :=
  redelivery_irrelevant2 leadSc ML honestL ML _ (fun _ h => h) (by decide)
example : (run2 leadSc (schedL.map Call2.accept)).err = none ∨
    (run2 leadSc (schedL.map Call2.accept)).err = some .finalizeErr :=
  honest_delivery_never_blames2 leadSc ML honestL schedL schedL_sub

-- the two sessions of the example really complete, and the two honest sets are exactly what the two models
-- emit for each other: the leader's output under its scrambled schedule is `MF`, the follower's is `ML`
set_option maxRecDepth 1000000 in
example : (run2 leadSc (schedL.map Call2.accept)).result = some 6042 ∧ (run2 leadSc (schedL.map Call2.accept)).err = none ∧
    (run2 leadSc (schedL.map Call2.accept)).out = MF := by decide
set_option maxRecDepth 1000000 in
example : (run2 follSc (schedF.map Call2.accept)).result = some 4096 ∧ (run2 follSc (schedF.map Call2.accept)).err = none ∧
    (run2 follSc (schedF.map Call2.accept)).out = ML := by decide

/-- a session that is still running after an early arrival and a LATE re-delivery: round 4 early, round 2,
    then round 2 again while the handler waits in round 6 -/
def lateL : List Msg := [mk leadSc 4, mk leadSc 2, mk leadSc 2]
theorem still_running : terminal2 (run2 leadSc (lateL.map Call2.accept)) = false ∧
    (run2 leadSc (lateL.map Call2.accept)).cur = 6 := by decide

/-- the hypotheses of `order_independent2_store` are satisfiable -/
theorem lateL_sim :
    Sim2 (run2 leadSc (lateL.map Call2.accept)) (run2 leadSc ([mk leadSc 2, mk leadSc 4].map Call2.accept)) :=
  have h : (∀ m ∈ lateL, m ∈ [mk leadSc 2, mk leadSc 4]) ∧ ∀ m ∈ [mk leadSc 2, mk leadSc 4], m ∈ lateL ∧ m ∈ ML := by
    decide
  order_independent2_store leadSc ML honestL _ _ (fun m hm => (h.2 m (h.1 m hm)).2) (fun m hm => (h.2 m hm).2)
    (fun m => ⟨h.1 m, fun hm => (h.2 m hm).1⟩) still_running.1

/-! counterexamples: what `Honest2` excludes does break order independence -/

/-- a follower script with a duplicated round number: 1 (expects input), 2 (silent), 2 (expects input) -/
def scDup : Script2 := ⟨ids2, [98], [97], 3,
  [⟨1, true, false, 0⟩, ⟨2, false, false, 0⟩, ⟨2, true, false, 0⟩], [7], [9], false, 0⟩

/-- every message is honest for `scDup`, only the script's round numbers are not distinct — and the order matters -/
theorem dup_rounds_order_dependent :
    (∀ m ∈ [mk scDup 1, mk scDup 2], HonestMsg2 scDup m) ∧ ¬ Honest2 scDup [mk scDup 1, mk scDup 2] ∧
    (run2 scDup ([mk scDup 1, mk scDup 2].map Call2.accept)).err = none ∧
    (run2 scDup ([mk scDup 2, mk scDup 1].map Call2.accept)).err = some .msgFail := by decide

/-- two different messages for one round number: the last one delivered before the round is finalized wins -/
theorem conflicting_duplicates_order_dependent :
    let m3 := mk follSc 3
    let m3' : Msg := { m3 with dec := some ⟨1, 0⟩ }
    (run2 follSc ([m3, m3', mk follSc 1].map Call2.accept)).acc ≠
    (run2 follSc ([m3', m3, mk follSc 1].map Call2.accept)).acc := by decide
end Ex

example : ∃ s m, canAccept2 s m = false := ⟨default, default, by decide⟩
example : ∃ (s : State2) (m : Msg), m.ssid.getD [] ≠ s.sc.ssid :=
  ⟨default, { (default : Msg) with ssid := some [1] }, by decide⟩
set_option maxRecDepth 100000 in
/-- the hypotheses of `waiting_message_is_only_stored2`: the fresh follower waits in round 1, round 5 arrives -/
example : canAdvance (init2 Ex.follSc) = false ∧ (Ex.mk Ex.follSc 5).rnd ≠ (init2 Ex.follSc).cur ∧
    (Ex.mk Ex.follSc 5).rnd ≠ 0 ∧ (!canAccept2 (init2 Ex.follSc) (Ex.mk Ex.follSc 5) || terminal2 (init2 Ex.follSc)) = false := by
  decide
/-- the hypothesis of `sim2_congruence` with two states that were reached in different ways -/
example (calls : List Call2) :
    Sim2 (calls.foldl apply2 (run2 Ex.leadSc (Ex.lateL.map Call2.accept)))
      (calls.foldl apply2 (run2 Ex.leadSc ([Ex.mk Ex.leadSc 2, Ex.mk Ex.leadSc 4].map Call2.accept))) :=
  sim2_congruence _ _ Ex.lateL_sim calls
example : ∃ s m, terminal2 s = true ∧ accept2 s m = s :=
  ⟨{ (default : State2) with err := some .stopped }, default, by decide, rfl⟩

end Mps.C07.TwoParty
