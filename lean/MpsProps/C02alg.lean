import MpsProofs.AlgebraSharing
/-
  C02 (algebra layer) — keygen yields ONE consistent, reconstructible sharing.
  All statements: arbitrary field `F`, arbitrary `F`-module `G` with base point `g`, arbitrary id
  type, arbitrary dealer lists and reconstruction lists (any n, any t, any subset, any order).
  The functions are the transcriptions in `Mps/Algebra.lean`, instantiated at `lawful g`.
-/
namespace Mps.C02alg
open Mps.Alg Polynomial

variable {F G : Type} [Field F] [AddCommGroup G] [Module F G] (g : G) {ι : Type} [DecidableEq ι]

set_option linter.unusedSectionVars false in -- the `[DecidableEq ι]` of the `variable` line is not needed here
/-- Full strength (dealers may be dishonest): every party that holds the same
    broadcast exponent polynomials `Es` — of one shape, which is what the constant rule and the degree
    rule of cmp keygen round 3 (`cmpPolyChecks`) enforce — and shares `sh j` that passed the Feldman check at its own
    point `x i`, obtains:
    * `polynomial.Sum` succeeds, and the summed polynomial evaluates at EVERY point to the sum of the
      evaluations (so the public table is a function of the broadcast view only: all parties get the
      same table), and its constant is the sum of the constants (same group key);
    * own final share · g = own table entry (cmp and frost variants of the table entry agree);
    also with a previous share/entry (refresh). -/
theorem keygen_consistent (dealers : List ι) (hne : dealers ≠ []) (Es : ι → Exponent G) (b : Bool) (m : ℕ)
    (hshape : Uniform b m (dealers.map Es)) (x : ι → F) (i : ι) (sh : ι → F)
    (hfeld : ∀ j ∈ dealers, feldmanCheck (lawful g : Ops F G) (sh j) (Es j) (x i))
    (prevShare : F) (prevPub : G) (hprev : prevShare • g = prevPub) :
    ∃ E, sumExp (lawful g : Ops F G) (dealers.map Es) = some E ∧ E.isConstant = b ∧ E.coeffs.length = m ∧
      (∀ y : F, evalExp (lawful g : Ops F G) E y = (dealers.map fun j => evalExp (lawful g : Ops F G) (Es j) y).sum) ∧
      expConstant (lawful g : Ops F G) E = (dealers.map fun j => expConstant (lawful g : Ops F G) (Es j)).sum ∧
      actBase (lawful g : Ops F G) (finalShare (lawful g : Ops F G) prevShare (dealers.map sh)) =
        finalPublicFrost (lawful g : Ops F G) prevPub E (x i) ∧
      finalPublicCmp (lawful g : Ops F G) (some prevPub) E (x i) = finalPublicFrost (lawful g : Ops F G) prevPub E (x i) := by
  obtain ⟨E, h1, h2, h3, h4, h5⟩ := sumExp_spec (F := F) g b m (dealers.map Es) (by simpa using hne) hshape
  simp only [List.map_map, Function.comp_def] at h4 h5
  refine ⟨E, h1, h2, h3, h4, h5, ?_, by simp only [alg, add_comm]⟩
  simp only [alg, h4, add_smul, hprev, ← sum_map_smul]
  exact congrArg (prevPub + ·) (congrArg List.sum (List.map_congr_left hfeld))

/-- honest dealing (coefficient lists `cs j`, one length, constants all zero or all non-zero — the
    representation `NewPolynomialExponent` picks depends on that): the table entry everybody computes
    for party i is (party i's share)·g. -/
theorem keygen_consistent_honest [DecidableEq F] (dealers : List ι) (hne : dealers ≠ []) (cs : ι → List F) (m : ℕ) (b : Bool)
    (hlen : ∀ j ∈ dealers, (cs j).length = m + 1) (hconst : ∀ j ∈ dealers, ((cs j).headD 0 = 0) = (b = true))
    (x : ι → F) (i : ι) (prevShare : F) :
    dealtPublic (lawful g : Ops F G) dealers cs x (prevShare • g) i =
      some (actBase (lawful g : Ops F G) (dealtShare (lawful g : Ops F G) dealers cs x prevShare i)) := by
  have hshape : Uniform b (if b then m else m + 1) (dealers.map fun j => expOfPoly (lawful g : Ops F G) (cs j)) := by
    intro e he
    obtain ⟨j, hj, rfl⟩ := List.mem_map.mp he
    simpa only [hconst j hj, Bool.decide_eq_true] using expOfPoly_shape g (cs j) m (hlen j hj)
  obtain ⟨E, h1, -, -, -, -, h6, h7⟩ := keygen_consistent g dealers hne (fun j => expOfPoly (lawful g : Ops F G) (cs j)) b _
    hshape x i (fun j => evalPoly (lawful g : Ops F G) (cs j) (x i))
    (fun j _ => (evalExp_expOfPoly g (cs j) (x i)).symm) prevShare _ rfl
  unfold dealtPublic
  rw [h1]
  exact congrArg some (h7.trans h6.symm)

/-- Scalar side. Polynomials with at most t+1 coefficients (degree ≤ t),
    EVERY duplicate-free list S of at least t+1 parties with distinct non-zero scalar images, in any
    order: the final shares interpolate (with the code's own coefficients) to
    (interpolation of the previous shares) + Σⱼ fⱼ(0).  For a fresh keygen the previous shares are 0. -/
theorem reconstruct_any_subset (dealers : List ι) (cs : ι → List F) (t : ℕ)
    (hdeg : ∀ j ∈ dealers, (cs j).length ≤ t + 1)
    (S : List ι) (x : ι → F) (hN : Nodes S x) (hS : t + 1 ≤ S.length) (prev : ι → F) :
    reconstruct (lawful g : Ops F G) S x (fun i => dealtShare (lawful g : Ops F G) dealers cs x (prev i) i) =
      reconstruct (lawful g : Ops F G) S x prev + (dealers.map fun j => (cs j).headD 0).sum := by
  simp only [dealtShare_lawful]
  rw [reconstruct_add, reconstruct_list_sum]
  congr 1
  refine congrArg List.sum (List.map_congr_left fun j hj => ?_)
  exact reconstruct_poly g hN (cs j) (le_trans (hdeg j hj) hS)

theorem reconstruct_any_subset_keygen (dealers : List ι) (cs : ι → List F) (t : ℕ)
    (hdeg : ∀ j ∈ dealers, (cs j).length ≤ t + 1)
    (S : List ι) (x : ι → F) (hN : Nodes S x) (hS : t + 1 ≤ S.length) :
    reconstruct (lawful g : Ops F G) S x (fun i => dealtShare (lawful g : Ops F G) dealers cs x 0 i) =
      (dealers.map fun j => (cs j).headD 0).sum := by
  rw [reconstruct_any_subset g dealers cs t hdeg S x hN hS, reconstruct_zero, zero_add]

/-- Public side, full strength (ANY exponent polynomials of degree ≤ t, honest or not): the table entries of every such S interpolate to
    (interpolation of the previous entries) + Σⱼ Fⱼ(0) = the group key. -/
theorem reconstruct_any_subset_public (dealers : List ι) (Es : ι → Exponent G) (t : ℕ)
    (hdeg : ∀ j ∈ dealers, expDegree (Es j) ≤ (t : Int))
    (S : List ι) (x : ι → F) (hN : Nodes S x) (hS : t + 1 ≤ S.length) (prevPub : ι → G) :
    reconstructG (lawful g : Ops F G) S x
        (fun i => prevPub i + (dealers.map fun j => evalExp (lawful g : Ops F G) (Es j) (x i)).sum) =
      reconstructG (lawful g : Ops F G) S x prevPub +
        (dealers.map fun j => expConstant (lawful g : Ops F G) (Es j)).sum := by
  rw [reconstructG_add, reconstructG_list_sum]
  congr 1
  refine congrArg List.sum (List.map_congr_left fun j hj => ?_)
  exact reconstructG_exp g hN (Es j) (by have := hdeg j hj; omega)

/-- honest keygen: shares and table entries of every S reconstruct the same key pair
    `(sk, sk·g)` with `sk = Σⱼ fⱼ(0)` -/
theorem reconstruct_keypair (dealers : List ι) (cs : ι → List F) (t : ℕ)
    (hdeg : ∀ j ∈ dealers, (cs j).length ≤ t + 1)
    (S : List ι) (x : ι → F) (hN : Nodes S x) (hS : t + 1 ≤ S.length) :
    reconstructG (lawful g : Ops F G) S x
        (fun i => actBase (lawful g : Ops F G) (dealtShare (lawful g : Ops F G) dealers cs x 0 i)) =
      (dealers.map fun j => (cs j).headD 0).sum • g := by
  simp only [actBase_lawful]
  rw [reconstructG_smul_base, reconstruct_any_subset_keygen g dealers cs t hdeg S x hN hS]

/-- degree mistakes are visible: with ONE more coefficient (degree |S|) interpolation from S fails —
    for every S there is a polynomial with |S|+1 coefficients whose shares on S interpolate to a value
    different from its constant coefficient (witness ∏_{i∈S}(X − xᵢ)). -/
theorem reconstruct_fails_degree_succ (S : List ι) (x : ι → F) (hN : Nodes S x) :
    ∃ cs : List F, cs.length = S.length + 1 ∧
      reconstruct (lawful g : Ops F G) S x (fun i => evalPoly (lawful g : Ops F G) cs (x i)) ≠ cs.headD 0 := by
  let f : F[X] := ∏ i ∈ S.toFinset, (X - C (x i))
  obtain ⟨cs, hlen, hhead, hval⟩ := exists_coeffList_of_natDegree_le g f S.length
    (by rw [show f.natDegree = S.toFinset.card from natDegree_finsetProd_X_sub_C_eq_card _ _, hN.card])
  refine ⟨cs, hlen, ?_⟩
  have hz : ∀ i ∈ S, f.eval (x i) = 0 := fun i hi => by
    rw [eval_prod]; exact Finset.prod_eq_zero (List.mem_toFinset.mpr hi) (by simp)
  have h0 : reconstruct (lawful g : Ops F G) S x (fun i => evalPoly (lawful g : Ops F G) cs (x i)) = 0 :=
    (reconstruct_congr _ fun i hi => (hval _).trans (hz i hi)).trans (reconstruct_zero g)
  rw [h0, hhead, eval_prod]
  exact (Finset.prod_ne_zero_iff.mpr fun i hi => by simpa using hN.nz_toFinset i hi).symm

/-- Doerner (2 parties, additive): after the exchange of refresh scalars — which `round2R/round2S`
    run on a fresh keygen too — the two shares still add up to the key whose public point both computed. -/
theorem doerner_keygen_consistent (a b ra rb : F) :
    actBase (lawful g : Ops F G)
        ((lawful g : Ops F G).add (doernerNewShare (lawful g : Ops F G) a ra rb)
          (doernerNewShare (lawful g : Ops F G) b rb ra)) =
      doernerPublic (lawful g : Ops F G) (actBase (lawful g : Ops F G) a) (actBase (lawful g : Ops F G) b) ∧
    doernerPublic (lawful g : Ops F G) (actBase (lawful g : Ops F G) a) (actBase (lawful g : Ops F G) b) =
      doernerPublic (lawful g : Ops F G) (actBase (lawful g : Ops F G) b) (actBase (lawful g : Ops F G) a) := by
  simp only [alg]
  exact ⟨by module, add_comm _ _⟩

/-! ### non-vacuity -/

/-- three parties with scalars 1,2,3 over ℚ are admissible nodes -/
example : Nodes (F := ℚ) [0, 1, 2] (fun i : ℕ => (i : ℚ) + 1) := Nodes.natCast_add_one (by decide)

example : Uniform (G := ℚ) false 2 ([0, 1].map fun _ : ℕ => (⟨false, [1, 2]⟩ : Exponent ℚ)) := by
  intro e he; simp at he; subst he; simp

/-- a share passing the Feldman check of an honest commitment: f = 3 + 2X at x = 2, share 7 (g = 1 in ℚ) -/
example : feldmanCheck (lawful (1 : ℚ) : Ops ℚ ℚ) 7 (expOfPoly (lawful (1 : ℚ) : Ops ℚ ℚ) [3, 2]) 2 := by
  unfold feldmanCheck
  rw [evalExp_expOfPoly]
  simp [evalPoly]; norm_num

end Mps.C02alg
