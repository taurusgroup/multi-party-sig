import MpsProps.Anchors.C20
import MpsProofs.Start
import Mps.StartTables
import Mps.Drv.Start
import MpsGen.Start
import MpsGen.Session
/-
  C20 — Invalid session parameters are refused at start.

  Model: Mps.Start. `startAsCoded c fn p` transcribes the decision logic of the 16 start functions
  (+ round.NewSession, Config.CanSign, ValidThreshold, PreSignature.Validate and the first round's
  use of the key material, which runs during handler construction) guard by guard, with the outcome
  `crash` where the code uses an absent value before any check. `c : Code` says which groups of guards
  the tree contains; `Mps.Drv.Start.currentCode` computes it from the regenerated guard tables, so the
  transcription follows the tree (`gen_start_tables_cmp`, `_frost`, `_doerner` demand of every table the variant with
  the guards).
  `startSpec` is the decision the property demands: ok exactly on valid parameters, err otherwise.

  Full statements, for ALL start functions and ALL parameter descriptions:
    start_total, startSpec_iff_valid, start_ok_imp_valid (code with every guard), canSign_iff, presig_validate_iff.
  For a tree WITHOUT a group of guards the full statement is false for the code as it is: proved as
  `…_counterexample` (each witness is replayed on the real code by suite `start`), next to
  `start_ok_imp_core_partial`, which holds on every tree.
-/
namespace Mps.C20
open Mps.Start

/-- the demanded decision accepts exactly the valid parameter sets -/
theorem startSpec_iff_valid (fn : Fn) (p : Params) : startSpec fn p = Out.ok ↔ Valid fn p := by
  rw [← validB_iff]
  unfold startSpec
  split <;> simp_all

/-- the demanded decision answers every parameter set that is not valid with an error -/
theorem startSpec_err_iff_invalid (fn : Fn) (p : Params) : startSpec fn p = Out.err ↔ ¬ Valid fn p := by
  rw [← validB_iff]
  unfold startSpec
  split <;> simp_all

/-- no path other than ok / err: neither the demanded decision nor the code with every guard in place
    can reach a use of an absent value -/
theorem start_total (fn : Fn) (p : Params) :
    startSpec fn p ≠ Out.crash ∧ startAsCoded Code.fixed fn p ≠ Out.crash :=
  -- the demanded decision is `ok` or `err` by definition; the content is the second half
  ⟨by unfold startSpec; split <;> simp, fixed_ne_crash fn p⟩

/-- with every guard in place a start that is allowed has valid parameters: 0 ≤ t < n (≤ 2³²−1), ids pairwise
    different, non-empty, with non-zero pairwise different scalar images, self among the parties, more than t
    signers, all of them shareholders, message non-empty where one is signed, key material / presignature
    present and complete -/
theorem start_ok_imp_valid (fn : Fn) (p : Params) (h : startAsCoded Code.fixed fn p = Out.ok) : Valid fn p :=
  (fixed_ok_iff fn p).1 h

/-- the code with every guard in place never accepts what the property refuses -/
theorem start_refuses_invalid (fn : Fn) (p : Params) (h : startSpec fn p = Out.err) :
    startAsCoded Code.fixed fn p = Out.err :=
  (fixed_eq_spec fn p).trans h

/-- PARTIAL (holds for the code of EVERY tree, guards or not): an allowed start has pairwise different
    participants that include the own id, a threshold 0 ≤ t < number of participants, for CMP signers that
    are all shareholders and a non-empty message. Full statement: `start_ok_imp_valid`, false on a tree
    without the guards — see the counterexamples below. -/
theorem start_ok_imp_core_partial (c : Code) (fn : Fn) (p : Params) (h : startAsCoded c fn p = Out.ok) : Core fn p :=
  ok_imp_core c fn p h

/-- `Config.CanSign` on a sorted signer list -/
theorem canSign_iff (cf : Cfg) (signers : List Bytes) :
    canSign cf signers = true ↔
      (0 ≤ cf.thr ∧ cf.thr ≤ 4294967295 ∧ cf.thr < signers.length) ∧ idsValid signers = true ∧ cf.id ∈ signers ∧
        ∀ j ∈ signers, j ∈ keys cf.shares := by
  simp only [canSign, Bool.and_eq_true, validThreshold_iff, List.contains_iff_mem, List.all_eq_true, and_assoc]

/-- a signer list accepted by `CanSign` has no duplicates -/
theorem canSign_nodup (cf : Cfg) (signers : List Bytes) (h : canSign cf signers = true) : signers.Nodup :=
  idsValid_nodup _ ((canSign_iff cf signers).1 h).2.1

/-- `PreSignature.Validate` with the nil guards accepts exactly the well-formed presignatures and never crashes -/
theorem presig_validate_iff (ps : Presig) :
    (presigValidate true ps = Out.ok ↔ PresigValid ps) ∧ presigValidate true ps ≠ Out.crash :=
  ⟨presigValidate_ok_iff true ps, presigValidate_true_ne_crash ps⟩

/-! ### the tree without the guards: the full statements fail (witnesses replayed by suite `start`) -/

def abc : List (Bytes × Tri) := [([97], .good), ([98], .good), ([99], .good)]
def goodCfg : Cfg := { group := true, id := [97], thr := 1, secret := .good, aux := true, shares := some abc }
def baseParams : Params := { group := true, self := [97], other := [98], ids := [[97], [98]], thr := 1, msgLen := 32,
                             cfg := some goodCfg, presig := none }

/-- a parameter set that the tree without the guards accepts and the property refuses -/
theorem accepted_invalid {fn : Fn} (p : Params) (h1 : startAsCoded Code.head fn p = Out.ok) (h2 : validB fn p = false) :
    ∃ q, startAsCoded Code.head fn q = Out.ok ∧ ¬ Valid fn q :=
  ⟨p, h1, fun hv => by rw [← validB_iff, h2] at hv; cases hv⟩

/-- FROST Sign accepts signers that hold no share (harness: frost.Sign ids=foreign ⇒ honest peers panic in round 3) -/
theorem frost_sign_foreign_signer_counterexample :
    ∃ p, startAsCoded Code.head .frostSign p = Out.ok ∧ ¬ Valid .frostSign p :=
  accepted_invalid { baseParams with ids := [[97], [122, 122]] } (by decide) (by decide)

theorem frost_sign_taproot_foreign_signer_counterexample :
    ∃ p, startAsCoded Code.head .frostSignTaproot p = Out.ok ∧ ¬ Valid .frostSignTaproot p :=
  accepted_invalid { baseParams with ids := [[97], [122, 122]] } (by decide) (by decide)

/-- FROST Sign accepts an empty message (harness: frost.Sign msg=empty ⇒ a signature on the empty message) -/
theorem frost_sign_empty_message_counterexample :
    ∃ p, startAsCoded Code.head .frostSign p = Out.ok ∧ ¬ Valid .frostSign p :=
  accepted_invalid { baseParams with msgLen := 0 } (by decide) (by decide)

/-- Doerner signing accepts an empty message hash -/
theorem doerner_sign_empty_message_counterexample :
    ∃ p, startAsCoded Code.head .doernerSignSender p = Out.ok ∧ ¬ Valid .doernerSignSender p :=
  accepted_invalid { baseParams with msgLen := 0 } (by decide) (by decide)

/-- absent key material is dereferenced before any check, for EVERY other parameter -/
theorem nil_config_crash_counterexample (fn : Fn)
    (hfn : fn ∈ [Fn.cmpRefresh, .cmpSign, .frostRefresh, .frostRefreshTaproot, .frostSign, .frostSignTaproot,
                 .doernerRefreshReceiver, .doernerRefreshSender, .doernerSignReceiver, .doernerSignSender])
    (p : Params) (h : p.cfg = none) : startAsCoded Code.head fn p = Out.crash := by
  simp only [List.mem_cons, List.not_mem_nil, or_false] at hfn
  rcases hfn with rfl | rfl | rfl | rfl | rfl | rfl | rfl | rfl | rfl | rfl <;> simp [startAsCoded, h, Code.head]

/-- a nil group reaches the first use of the group -/
theorem nil_group_crash_counterexample :
    startAsCoded Code.head .cmpKeygen { baseParams with group := false, ids := [[97], [98], [99]] } = Out.crash ∧
    startAsCoded Code.head .frostKeygen { baseParams with group := false, ids := [[97], [98], [99]] } = Out.crash ∧
    startAsCoded Code.head .doernerKeygen { baseParams with group := false } = Out.crash := by decide

/-- an id with the zero scalar image ("\x00") is accepted as a participant (harness: every honest peer
    panics with "attempt to leak secret" when it evaluates its polynomial for that party); so are two ids
    with one scalar image ("a", "\x00a") -/
theorem zero_scalar_id_counterexample :
    ∃ p, startAsCoded Code.head .frostKeygen p = Out.ok ∧ ¬ Valid .frostKeygen p :=
  accepted_invalid { baseParams with ids := [[97], [98], [99], [0]] } (by decide) (by decide)

theorem same_scalar_ids_counterexample :
    ∃ p, startAsCoded Code.head .cmpKeygen p = Out.ok ∧ ¬ Valid .cmpKeygen p :=
  accepted_invalid { baseParams with ids := [[97], [98], [99], [0, 97]] } (by decide) (by decide)

/-- key material without its secret share passes the start of cmp.Refresh (and the session then aborts
    blaming this party), key material without the Paillier key passes the start of cmp.Sign (and the party
    panics in round 1) -/
theorem incomplete_config_counterexample :
    (∃ p, startAsCoded Code.head .cmpRefresh p = Out.ok ∧ ¬ Valid .cmpRefresh p) ∧
    (∃ p, startAsCoded Code.head .cmpSign p = Out.ok ∧ ¬ Valid .cmpSign p) :=
  ⟨accepted_invalid { baseParams with cfg := some { goodCfg with secret := .absent } } (by decide) (by decide),
   accepted_invalid { baseParams with cfg := some { goodCfg with aux := false } } (by decide) (by decide)⟩

/-- `PreSignature.Validate` without the nil guards dereferences absent fields -/
theorem presig_validate_crash_counterexample :
    presigValidate false { r := .absent, k := .good, chi := .good, idLen := 32, rbar := some abc, s := some abc } = Out.crash ∧
    presigValidate false { r := .good, k := .good, chi := .good, idLen := 32, rbar := none, s := none } = Out.crash := by decide

example : startAsCoded Code.fixed .cmpSign baseParams = Out.ok := by decide
example : startAsCoded Code.fixed .frostSign baseParams = Out.ok := by decide
example : startAsCoded Code.fixed .frostKeygen { baseParams with ids := [[97], [98], [99]] } = Out.ok := by decide
example : startAsCoded Code.fixed .doernerSignReceiver baseParams = Out.ok := by decide
example : startAsCoded Code.head .cmpSign baseParams = Out.ok := by decide
example : startSpec .cmpSign { baseParams with msgLen := 0 } = Out.err := by decide
example : canSign goodCfg [[97], [98]] = true := by decide
example : presigValidate true { r := .good, k := .good, chi := .good, idLen := 32, rbar := some abc, s := some abc } = Out.ok := by decide

open Mps.Start.Pinned in
/-- every regenerated guard table of the start functions equals the pinned variant WITH the guards (`fixed`,
    Mps/StartTables.lean; `head` there is the tree without them, which the counterexamples are about; `CanSign` and
    `ValidThreshold` are the same in both) -/
theorem gen_start_tables_cmp :
    MpsGen.Start.cmpKeygenStart = fixed.cmpKeygenStart ∧
    MpsGen.Start.cmpRefresh = fixed.cmpRefresh ∧
    MpsGen.Start.cmpSign = fixed.cmpSign ∧
    MpsGen.Start.cmpPresign = fixed.cmpPresign ∧
    MpsGen.Start.cmpPresignOnline = fixed.cmpPresignOnline ∧
    MpsGen.Start.cmpCanSign = head.cmpCanSign ∧ MpsGen.Start.cmpValidThreshold = head.cmpValidThreshold ∧
    MpsGen.Start.presigValidate = fixed.presigValidate ∧
    MpsGen.Session.newSessionGuards = fixed.newSessionGuards :=
  ⟨rfl, rfl, rfl, rfl, rfl, rfl, rfl, rfl, rfl⟩

open Mps.Start.Pinned in
theorem gen_start_tables_frost :
    MpsGen.Start.frostKeygenCommon = fixed.frostKeygenCommon ∧
    MpsGen.Start.frostRefresh = fixed.frostRefresh ∧
    MpsGen.Start.frostRefreshTaproot = fixed.frostRefreshTaproot ∧
    MpsGen.Start.frostSign = fixed.frostSign ∧
    MpsGen.Start.frostSignTaproot = fixed.frostSignTaproot ∧
    MpsGen.Start.frostSignCommon = fixed.frostSignCommon :=
  ⟨rfl, rfl, rfl, rfl, rfl, rfl⟩

open Mps.Start.Pinned in
theorem gen_start_tables_doerner :
    MpsGen.Start.doernerStartKeygen = fixed.doernerStartKeygen ∧
    MpsGen.Start.doernerRefreshReceiver = fixed.doernerRefreshReceiver ∧
    MpsGen.Start.doernerRefreshSender = fixed.doernerRefreshSender ∧
    MpsGen.Start.doernerSignReceiver = fixed.doernerSignReceiver ∧
    MpsGen.Start.doernerSignSender = fixed.doernerSignSender :=
  ⟨rfl, rfl, rfl, rfl, rfl⟩

/-- the regenerated tables of THIS tree show every guard: the flags the driver's transcription runs with -/
theorem gen_current_code : Mps.Drv.Start.currentCode = Code.fixed := by
  simp only [Mps.Drv.Start.currentCode, gen_start_tables_cmp, gen_start_tables_frost, gen_start_tables_doerner,
    beq_self_eq_true, Bool.and_self, Code.fixed]

/-- the statement about THIS tree (`currentCode` = the flags read off the regenerated tables): whatever its
    start functions allow is valid and none of them can crash -/
theorem start_ok_imp_valid_current (fn : Fn) (p : Params) :
    (startAsCoded Mps.Drv.Start.currentCode fn p = Out.ok → Valid fn p) ∧
      startAsCoded Mps.Drv.Start.currentCode fn p ≠ Out.crash := by
  rw [gen_current_code]; exact ⟨start_ok_imp_valid fn p, (start_total fn p).2⟩

end Mps.C20
