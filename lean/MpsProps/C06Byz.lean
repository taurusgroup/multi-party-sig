import MpsProofs.Byz
/-
  C06 at system level — equivocation on a broadcast round cannot split the honest parties.

  Model (Mps/Byz.lean): a session `base` (`SessionOk base`) with ONE deviating participant `x`; the honest parties
  `honestIds base x` run the handler model (`Mps.Handler`, script `scriptFor base p`). A schedule is a list of
  deliveries (recipient, message); it is `ByzCausal` when every recipient is honest and every message EITHER carries
  the sender name `x` (then it is ARBITRARY: equivocation, malformed contents, failure flags, wrong echo stamps,
  replays under its own name, abort notices …) OR is, at that moment, in the `out` list of the honest party it
  names and addressed to the recipient (authenticated channels; any order, repetition, delay).
  Lemmas in MpsProofs/Byz.lean. The handler-level statement is `Mps.C06.echo_agreement`.
-/
namespace Mps.C06Byz
open Mps Mps.Handler Mps.System

/-- reading of the schedule predicate: a delivery is possible iff the recipient is honest and the message is the
    adversary's own or an emitted message of the honest party it names, addressed to the recipient -/
theorem byz_delivery_iff (base : Script) (x : Bytes) (σ : Sys) (p : Bytes) (m : Msg) :
    σ.byzCanDeliver base x p m = true ↔
      p ∈ honestIds base x ∧ (m.frm = x ∨ (m.frm ∈ honestIds base x ∧ isFor m p = true ∧ m ∈ (σ m.frm).out)) :=
  byzCanDeliver_iff base x σ p m

/-- AUTHENTICITY (the only thing assumed about the network): whatever an honest party `p` has stored under the
    name of an honest party `q` is a message `q` has emitted -/
theorem stored_under_honest_name_was_emitted (H : Bytes → Bytes) (base : Script) (x : Bytes) (sched : Sched)
    (hc : ByzCausal H base x sched = true) (p q : Bytes) (hp : p ∈ honestIds base x) (hq : q ∈ honestIds base x)
    (m : Msg) (hs : Stored ((Sys.run H base sched) p) m) (hf : m.frm = q) : m ∈ ((Sys.run H base sched) q).out :=
  stored_honest_emitted sched hc p q hp hq m hs hf

/-- ONE-SIDED FORM. For every hash `H` with bounded output, every session `base` (`SessionOk`; `SizesOk`: lengths fit
    the wire format; `hsw`: session-hash items well-formed), every deviating party `x`, every Byzantine schedule whose
    adversarial messages are wire-representable (`MsgOk`), every two different honest parties `p`, `q`, and every
    broadcast round `sp` (index `j ≥ 1`) followed by a round `nx` numbered `sp.num + 1` that receives something:
    if `p` is PAST round `nx` (it has a result, or its current round number is larger), then `p` and `q` hold
    byte-identical copies (`wire`: every field that enters `Message.Hash`) of EVERY participant's round-`sp` broadcast
    — in particular `q` holds a complete view — or `H` collides. Nothing is assumed about how far `q` got. -/
theorem honest_views_agree (H : Bytes → Bytes) (hH : ∀ b, (H b).length < 2 ^ 64) (base : Script) (ok : SessionOk base)
    (sz : SizesOk base) (hsw : ∀ i ∈ base.sess, i.WF) (x : Bytes) (sched : Sched)
    (hc : ByzCausal H base x sched = true) (hadv : ∀ e ∈ sched, e.2.frm = x → MsgOk e.2) (p q : Bytes)
    (hp : p ∈ honestIds base x) (hq : q ∈ honestIds base x) (hpq : p ≠ q) (j : Nat) (sp nx : RoundSpec) (hj : 1 ≤ j)
    (hsp : base.rounds[j]? = some sp) (hnx : base.rounds[j + 1]? = some nx) (hnum : nx.num = sp.num + 1)
    (hB : sp.recvB = true) (hK : nx.recvB = true ∨ nx.recvP = true)
    (hpast : pastRound ((Sys.run H base sched) p) nx.num = true) :
    (∀ id ∈ base.ids, ∃ mp mq, lookup ((Sys.run H base sched) p).bc sp.num id = some mp ∧
        lookup ((Sys.run H base sched) q).bc sp.num id = some mq ∧ wire mp = wire mq) ∨
    (∃ a b : Bytes, a ≠ b ∧ H a = H b) :=
  System.honest_views_agree hH ok sz hsw sched hc hadv p q hp hq hpq j sp nx hj hsp hnx hnum hB hK hpast

/-- EQUIVOCATION CANNOT SPLIT. Same quantification; if BOTH honest parties `p` and `q` are past the round after the
    broadcast round `sp`, then for every sender id their stored round-`sp` broadcasts have equal hash input
    (`msgHashItems`), hence equal payload `data` (indeed all wire fields are equal) — or `H` collides (an explicit
    disjunct; no assumption on `H` beyond the output length bound). -/
theorem equivocation_cannot_split (H : Bytes → Bytes) (hH : ∀ b, (H b).length < 2 ^ 64) (base : Script)
    (ok : SessionOk base) (sz : SizesOk base) (hsw : ∀ i ∈ base.sess, i.WF) (x : Bytes) (sched : Sched)
    (hc : ByzCausal H base x sched = true) (hadv : ∀ e ∈ sched, e.2.frm = x → MsgOk e.2) (p q : Bytes)
    (hp : p ∈ honestIds base x) (hq : q ∈ honestIds base x) (hpq : p ≠ q) (j : Nat) (sp nx : RoundSpec) (hj : 1 ≤ j)
    (hsp : base.rounds[j]? = some sp) (hnx : base.rounds[j + 1]? = some nx) (hnum : nx.num = sp.num + 1)
    (hB : sp.recvB = true) (hK : nx.recvB = true ∨ nx.recvP = true)
    (hpastP : pastRound ((Sys.run H base sched) p) nx.num = true)
    (_hpastQ : pastRound ((Sys.run H base sched) q) nx.num = true) :
    (∀ id ∈ base.ids, ∃ mp mq, lookup ((Sys.run H base sched) p).bc sp.num id = some mp ∧
        lookup ((Sys.run H base sched) q).bc sp.num id = some mq ∧
        msgHashItems mp = msgHashItems mq ∧ mp.data = mq.data ∧ wire mp = wire mq) ∨
    (∃ a b : Bytes, a ≠ b ∧ H a = H b) := by
  rcases System.honest_views_agree hH ok sz hsw sched hc hadv p q hp hq hpq j sp nx hj hsp hnx hnum hB hK hpastP with h | h
  · left
    intro id hid
    obtain ⟨mp, mq, h1, h2, h3⟩ := h id hid
    exact ⟨mp, mq, h1, h2, (wire_items mp mq h3).1, (wire_items mp mq h3).2, h3⟩
  · exact Or.inr h

/-- NO SPLIT COMPLETION. If two different honest parties have stored round-`sp` broadcasts with different payloads
    under one sender id (the cheater equivocated), then NEITHER of them completes with a result — unless `H`
    collides. (Stronger than "not both": the one-sided form applies to each of them.) -/
theorem no_split_completion (H : Bytes → Bytes) (hH : ∀ b, (H b).length < 2 ^ 64) (base : Script)
    (ok : SessionOk base) (sz : SizesOk base) (hsw : ∀ i ∈ base.sess, i.WF) (x : Bytes) (sched : Sched)
    (hc : ByzCausal H base x sched = true) (hadv : ∀ e ∈ sched, e.2.frm = x → MsgOk e.2) (p q : Bytes)
    (hp : p ∈ honestIds base x) (hq : q ∈ honestIds base x) (hpq : p ≠ q) (j : Nat) (sp nx : RoundSpec) (hj : 1 ≤ j)
    (hsp : base.rounds[j]? = some sp) (hnx : base.rounds[j + 1]? = some nx) (hnum : nx.num = sp.num + 1)
    (hB : sp.recvB = true) (hK : nx.recvB = true ∨ nx.recvP = true) (id : Bytes) (mp mq : Msg)
    (hlp : lookup ((Sys.run H base sched) p).bc sp.num id = some mp)
    (hlq : lookup ((Sys.run H base sched) q).bc sp.num id = some mq) (hdiff : mp.data ≠ mq.data) :
    (((Sys.run H base sched) p).result = none ∧ ((Sys.run H base sched) q).result = none) ∨
    (∃ a b : Bytes, a ≠ b ∧ H a = H b) := by
  by_cases hcol : ∃ a b : Bytes, a ≠ b ∧ H a = H b
  · exact Or.inr hcol
  · left
    -- the sender id is a party
    have hid : id ∈ base.ids := by
      obtain ⟨hst, _, hf, _⟩ := (reach_queueKeys _ (run_reach_party H base sched p)).of_lookup true hlp
      exact hf ▸ (stored_slot sched p (mem_honestIds.mp hp).1 mp hst).2
    have key : ∀ (p q : Bytes), p ∈ honestIds base x → q ∈ honestIds base x → p ≠ q → ∀ (mp mq : Msg),
        lookup ((Sys.run H base sched) p).bc sp.num id = some mp →
        lookup ((Sys.run H base sched) q).bc sp.num id = some mq → mp.data ≠ mq.data →
        ((Sys.run H base sched) p).result = none := by
      intro p q hp hq hpq mp mq hlp hlq hdiff
      cases hr : ((Sys.run H base sched) p).result with
      | none => rfl
      | some v =>
        exfalso
        have hpast : pastRound ((Sys.run H base sched) p) nx.num = true := by simp [pastRound, hr]
        rcases System.honest_views_agree hH ok sz hsw sched hc hadv p q hp hq hpq j sp nx hj hsp hnx hnum hB hK hpast
          with h | h
        · obtain ⟨mp', mq', h1, h2, h3⟩ := h id hid
          rw [hlp] at h1; rw [hlq] at h2
          cases h1; cases h2
          exact hdiff (wire_items _ _ h3).2
        · exact hcol h
    exact ⟨key p q hp hq hpq mp mq hlp hlq hdiff, key q p hq hp (fun e => hpq e.symm) mq mp hlq hlp (fun e => hdiff e.symm)⟩

/-! ### Non-vacuity: a 3-party session (round 2: broadcast, round 3: p2p), party `[3]` deviates -/

namespace Ex
/-- a toy hash (length and byte sum); the theorems hold for every `H` with bounded output. It collides (`[1, 2]` and
    `[2, 1]`), so with it the conclusions below hold through their collision disjunct already: the examples show that
    the hypotheses can be met, and what the two schedules do to the honest parties is what `evalE` / `evalC` compute -/
def Hx : Bytes → Bytes := fun b => [UInt8.ofNat b.length, UInt8.ofNat (b.foldl (fun a x => a + x.toNat) 0)]
def sc : Script := ⟨[[1], [2], [3]], [1], 3, [⟨1, false, false⟩, ⟨2, true, false⟩, ⟨3, false, true⟩], [7], [9], [], 0⟩
def mk (frm to : Bytes) (r : Nat) (b : Bool) (bv : Option Bytes) (v : Nat) : Msg :=
  { ssid := some sc.ssid, frm := frm, to := to, proto := sc.proto, rnd := r,
    data := some (cborContent ⟨v, 0⟩), bcast := b, bv := bv, dec := some ⟨v, 0⟩ }
/-- the honest round-2 broadcast of `q` and round-3 p2p message of `q` to `p` (stamped with `q`'s echo hash) -/
def hb (q : Bytes) : Msg := mk q [] 2 true none (honestV sc q [] 2)
def hp3 (q p : Bytes) (stamp : Bytes) : Msg := mk q p 3 false (some stamp) (honestV sc q p 3)
/-- the cheater's two round-2 broadcasts -/
def e1 : Msg := mk [3] [] 2 true none 3002
def e2 : Msg := mk [3] [] 2 true none 666

/-- `[3]` EQUIVOCATES: payload 3002 to `[1]`, 666 to `[2]`; then the honest round-3 messages cross -/
def schedE : Sched :=
  [([1], hb [2]), ([1], e1), ([2], hb [1]), ([2], e2), ([2], hp3 [1] [2] [90, 78]), ([1], hp3 [2] [1] [90, 37])]
/-- `[3]` sends the same broadcast to both and correctly stamped round-3 messages: the session completes -/
def schedC : Sched :=
  [([1], hb [2]), ([1], e1), ([2], hb [1]), ([2], e1),
   ([1], hp3 [2] [1] [90, 78]), ([1], hp3 [3] [1] [90, 78]), ([2], hp3 [1] [2] [90, 78]), ([2], hp3 [3] [2] [90, 78])]

theorem hH : ∀ b, (Hx b).length < 2 ^ 64 := fun b => by simp [Hx]
theorem session_ok : SessionOk sc := by decide
theorem sizes_ok : SizesOk sc := by decide
theorem sess_wf : ∀ i ∈ sc.sess, i.WF := by decide
theorem honest12 : [1] ∈ honestIds sc [3] ∧ [2] ∈ honestIds sc [3] := by decide

/-- everything below about `schedE`, in ONE kernel evaluation of the schedule (the conjuncts share the run) -/
theorem evalE : ByzCausal Hx sc [3] schedE = true ∧ (∀ e ∈ schedE, e.2.frm = [3] → MsgOk e.2) ∧
    (2, [2], hb [2]) ∈ ((Sys.run Hx sc schedE) [1]).bc ∧
    (lookup ((Sys.run Hx sc schedE) [1]).bc 2 [3] = some e1 ∧ lookup ((Sys.run Hx sc schedE) [2]).bc 2 [3] = some e2 ∧
      e1.data ≠ e2.data) ∧
    ((Sys.run Hx sc schedE) [1]).err = some .echoMismatch ∧ ((Sys.run Hx sc schedE) [2]).err = some .echoMismatch ∧
    ((Sys.run Hx sc schedE) [1]).result = none ∧ ((Sys.run Hx sc schedE) [2]).result = none ∧
    ((Sys.run Hx sc schedE) [1]).bh = [(2, [90, 78])] ∧ ((Sys.run Hx sc schedE) [2]).bh = [(2, [90, 37])] := by
  decide +kernel

/-- the same for `schedC` -/
theorem evalC : ByzCausal Hx sc [3] schedC = true ∧ (∀ e ∈ schedC, e.2.frm = [3] → MsgOk e.2) ∧
    pastRound ((Sys.run Hx sc schedC) [1]) 3 = true ∧ pastRound ((Sys.run Hx sc schedC) [2]) 3 = true ∧
    ((Sys.run Hx sc schedC) [1]).result.isSome = true ∧ ((Sys.run Hx sc schedC) [2]).result.isSome = true := by
  decide +kernel

theorem causalE : ByzCausal Hx sc [3] schedE = true := evalE.1
theorem causalC : ByzCausal Hx sc [3] schedC = true := evalC.1
theorem advE : ∀ e ∈ schedE, e.2.frm = [3] → MsgOk e.2 := evalE.2.1
theorem advC : ∀ e ∈ schedC, e.2.frm = [3] → MsgOk e.2 := evalC.2.1

-- the consistent schedule: both honest parties complete, so they are past round 3 — every hypothesis of
-- `equivocation_cannot_split` (and of `honest_views_agree`) holds
theorem pastC : pastRound ((Sys.run Hx sc schedC) [1]) 3 = true ∧ pastRound ((Sys.run Hx sc schedC) [2]) 3 = true ∧
    ((Sys.run Hx sc schedC) [1]).result.isSome = true ∧ ((Sys.run Hx sc schedC) [2]).result.isSome = true := evalC.2.2

example : (∀ id ∈ sc.ids, ∃ mp mq, lookup ((Sys.run Hx sc schedC) [1]).bc 2 id = some mp ∧
      lookup ((Sys.run Hx sc schedC) [2]).bc 2 id = some mq ∧
      msgHashItems mp = msgHashItems mq ∧ mp.data = mq.data ∧ wire mp = wire mq) ∨
    (∃ a b : Bytes, a ≠ b ∧ Hx a = Hx b) :=
  equivocation_cannot_split Hx hH sc session_ok sizes_ok sess_wf [3] schedC causalC advC [1] [2] honest12.1 honest12.2
    (by decide) 1 ⟨2, true, false⟩ ⟨3, false, true⟩ (by decide) rfl rfl rfl rfl (Or.inr rfl) pastC.1 pastC.2.1

example : (∀ id ∈ sc.ids, ∃ mp mq, lookup ((Sys.run Hx sc schedC) [2]).bc 2 id = some mp ∧
      lookup ((Sys.run Hx sc schedC) [1]).bc 2 id = some mq ∧ wire mp = wire mq) ∨
    (∃ a b : Bytes, a ≠ b ∧ Hx a = Hx b) :=
  honest_views_agree Hx hH sc session_ok sizes_ok sess_wf [3] schedC causalC advC [2] [1] honest12.2 honest12.1
    (by decide) 1 ⟨2, true, false⟩ ⟨3, false, true⟩ (by decide) rfl rfl rfl rfl (Or.inr rfl) pastC.2.1

-- authenticity: `[1]` has stored `[2]`'s broadcast (in the equivocating schedule, too)
set_option maxRecDepth 1000000 in
example : hb [2] ∈ ((Sys.run Hx sc schedE) [2]).out :=
  stored_under_honest_name_was_emitted Hx sc [3] schedE causalE [1] [2] honest12.1 honest12.2 (hb [2])
    (Or.inr ⟨(2, [2], hb [2]), evalE.2.2.1, rfl⟩) rfl

-- the equivocating schedule: the two honest parties hold different round-2 broadcasts of `[3]` — every hypothesis
-- of `no_split_completion` holds; indeed both end with the culprit-less echo mismatch and without a result
theorem splitE : lookup ((Sys.run Hx sc schedE) [1]).bc 2 [3] = some e1 ∧ lookup ((Sys.run Hx sc schedE) [2]).bc 2 [3] = some e2 ∧
    e1.data ≠ e2.data := evalE.2.2.2.1

example : (((Sys.run Hx sc schedE) [1]).result = none ∧ ((Sys.run Hx sc schedE) [2]).result = none) ∨
    (∃ a b : Bytes, a ≠ b ∧ Hx a = Hx b) :=
  no_split_completion Hx hH sc session_ok sizes_ok sess_wf [3] schedE causalE advE [1] [2] honest12.1 honest12.2
    (by decide) 1 ⟨2, true, false⟩ ⟨3, false, true⟩ (by decide) rfl rfl rfl rfl (Or.inr rfl) [3] e1 e2 splitE.1 splitE.2.1
    splitE.2.2

set_option maxRecDepth 1000000 in
example : ((Sys.run Hx sc schedE) [1]).err = some .echoMismatch ∧ ((Sys.run Hx sc schedE) [2]).err = some .echoMismatch ∧
    ((Sys.run Hx sc schedE) [1]).result = none ∧ ((Sys.run Hx sc schedE) [2]).result = none ∧
    ((Sys.run Hx sc schedE) [1]).bh = [(2, [90, 78])] ∧ ((Sys.run Hx sc schedE) [2]).bh = [(2, [90, 37])] := evalE.2.2.2.2
end Ex

end Mps.C06Byz
