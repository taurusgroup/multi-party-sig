import MpsProps.Anchors.C05
import MpsProofs.Handler
import MpsProps.HandlerSrc
import Mps.Malform
import MpsGen.Guards
import Mps.GuardTables
/-
  C05 — No network input can crash, hang or exhaust an honest party.

  What is PROVED here is the model-level part: the handler model (Mps.Handler, a transcription of
  pkg/protocol/handler.go) is a total function, and for EVERY script, EVERY call history and EVERY message
  (any header, any content, decodable or not) an `Accept` has exactly one of three outcomes - ignored,
  carried on, ended cleanly (channel closed once, Result = error xor value) - and nothing else. The
  judgement `obsOk` that the driver applies to the observations made on the REAL handlers accepts every
  behaviour of the model (`model_behaviours_accepted`), so an observation it refuses, and every PANIC /
  TIMEOUT / MEMLIMIT, is a behaviour the model does not have.

  PARTIAL: Go panics, time and memory are runtime behaviour the model cannot exhibit. That part of the
  property is carried by (T) the regenerated guard-before-use tables below - every nil-able field of every zk
  proof and of every round message content, with whether its first occurrence is a guard or a use - and by
  (C) the malformation stream of suite `malform` through the real CanAccept / Accept.
-/
namespace Mps.C05
open Mps Mps.Handler Mps.Malform

theorem snapGood_of_good (s : State) (g : Good s) : snapGood (snapOf s) = true := by
  rcases g with l | d
  · obtain ⟨h1, h2, h3⟩ := l
    simp [snapGood, snapOf, terminal, h1, h2, h3]
  · obtain ⟨h1, h2⟩ := d
    rcases h2 with ⟨he, hr⟩ | ⟨he, hr⟩ <;> simp [snapGood, snapOf, terminal, h1, he, hr]

theorem ended_iff_terminal (s : State) : (snapOf s).ended = terminal s := rfl

/-- a message that is refused, or that arrives after the end, changes nothing -/
theorem refused_or_late_is_ignored (H : Bytes → Bytes) (s : State) (m : Msg)
    (h : canAccept s m = false ∨ terminal s = true) : accept H s m = s :=
  h.elim (accept_refused H s m) (accept_terminal H s m)

/-- two good observations are classified as soon as nothing changed where nothing may change (before: ended,
    or the message refused) -/
theorem classify_isSome (can : Bool) (a b : Snap) (ha : snapGood a = true) (hb : snapGood b = true)
    (h : can = false ∨ a.ended = true → b = a) : (classify can a b).isSome = true := by
  unfold classify
  rw [ha, hb]
  cases he : a.ended
  · cases can
    · simp [h (Or.inl rfl)]
    · cases b.ended <;> rfl
  · simp [h (Or.inr he)]

theorem accept_classified (H : Bytes → Bytes) (s : State) (m : Msg) (g : Good s) :
    (classify (canAccept s m) (snapOf s) (snapOf (accept H s m))).isSome = true :=
  classify_isSome _ _ _ (snapGood_of_good _ g) (snapGood_of_good _ (accept_good H s m g))
    (fun h => by rw [refused_or_late_is_ignored H s m h])

/-- the judgement accepts what a handler in any good state does with any message and any further calls -/
theorem obsOk_of_good (H : Bytes → Bytes) (s : State) (m : Msg) (rest : List Call) (g : Good s) :
    obsOk (canAccept s m) (snapOf s) (snapOf (accept H s m)) (snapOf (rest.foldl (Handler.apply H) (accept H s m))) =
      true := by
  have g2 := List.foldlRecOn (motive := Good) rest (Handler.apply H) (accept_good H s m g)
    fun s g c _ => apply_good H s c g
  simp only [obsOk, accept_classified H s m g, snapGood_of_good _ g2, Bool.true_and, Bool.or_eq_true,
    Bool.not_eq_true', beq_iff_eq]
  cases he : terminal (accept H s m)
  · exact Or.inl he
  · exact Or.inr (congrArg snapOf (foldl_apply_terminal H _ rest he))

/-- `Accept` is total and has one of three outcomes, for every script, every history of calls and every message:
    ignored (nothing changes), carried on (still running), ended cleanly (closed once, error xor result) -/
theorem accept_total (H : Bytes → Bytes) (sc : Script) (calls : List Call) (m : Msg) :
    let s := run H sc calls
    ∃ o : Outcome, classify (canAccept s m) (snapOf s) (snapOf (accept H s m)) = some o :=
  Option.isSome_iff_exists.mp (accept_classified H _ m (run_good H sc calls))

/-- the judgement applied to the real handlers accepts every behaviour of the model: state before, after any
    message, after any further calls -/
theorem model_behaviours_accepted (H : Bytes → Bytes) (sc : Script) (calls : List Call) (m : Msg) (rest : List Call) :
    let s0 := run H sc calls
    let s1 := accept H s0 m
    let s2 := rest.foldl (Handler.apply H) s1
    obsOk (canAccept s0 m) (snapOf s0) (snapOf s1) (snapOf s2) = true :=
  obsOk_of_good H _ m rest (run_good H sc calls)

open Mps.Guards.Pinned in
/-- received content is decoded through the panic-proof decoder -/
theorem gen_decode_calls :
    MpsGen.Guards.decodeCalls = fixed.decodeCalls := rfl

open Mps.Guards.Pinned in
/-- the number of points `Exponent.UnmarshalBinary` allocates is the count field of the input, after the
    length / count guards -/
theorem gen_exponent_guards :
    MpsGen.Guards.exponentAlloc = ["make([]curve.Point, int(size))"] ∧
    MpsGen.Guards.exponentUnmarshal = fixed.exponentUnmarshal :=
  ⟨rfl, rfl⟩

/-- zk proofs: every nil-able field of every proof that `Verify` uses is established by `IsValid` (or by a nil
    comparison at the head of `Verify`): no candidate left -/
theorem gen_zk_guards :
    MpsGen.Guards.zkUnguarded = [] := rfl

/-- round messages: for every round of every protocol and each unit the handlers run, the first occurrence of
    every nil-able content field is a guard -/
theorem gen_round_guards :
    MpsGen.Guards.roundUseFirst = [] := rfl

end Mps.C05
