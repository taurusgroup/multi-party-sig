import MpsProps.Anchors.C02
import Mps.Judge
import MpsProps.Src.SrcCmpKeygen
import MpsProps.Src.SrcFrostKeygen
import MpsProps.Src.SrcDoernerKeygen
import MpsProps.Src.SrcCmpConfig
import MpsProps.C02alg
import MpsProps.AlgGen
/-
  C02 — one import for the property: anchors and source tables, and the theorems, which are in
  MpsProps/C02alg.lean (algebra layer).
-/
