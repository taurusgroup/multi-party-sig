import MpsProofs.Frame
import Mps.Typed
/-
  The data encoders of the typed values (M1) are injective piece by piece: fixed-width and minimal big-endian
  numbers (`unbe` is a left inverse), byte strings behind their length, id lists, gob integers. Core-only.
-/
namespace Mps

theorem beN_inj (k a b : Nat) (ha : a < 256 ^ k) (hb : b < 256 ^ k) (h : beN k a = beN k b) : a = b := by
  have := congrArg unbe h
  rw [unbe_beN, unbe_beN, Nat.mod_eq_of_lt ha, Nat.mod_eq_of_lt hb] at this
  exact this

theorem unbe_natBytes (n : Nat) : unbe (natBytes n) = n := by
  induction n using Nat.strongRecOn with
  | _ n ih =>
    rw [natBytes]
    split
    · next h => subst h; rfl
    · next h =>
      rw [unbe_append_single, ih (n / 256) (by omega), toNat_ofNat_mod]
      omega

theorem natBytes_inj (a b : Nat) (h : natBytes a = natBytes b) : a = b := by
  have := congrArg unbe h
  rwa [unbe_natBytes, unbe_natBytes] at this

theorem be64_inj (a b : Nat) (ha : a < 2 ^ 64) (hb : b < 2 ^ 64) (h : be64 a = be64 b) : a = b :=
  beN_inj 8 a b (by simpa using ha) (by simpa using hb) h

theorem lenPrefixed_inj {a a' r r' : Bytes} (ha : a.length < 2 ^ 64) (ha' : a'.length < 2 ^ 64)
    (h : be64 a.length ++ a ++ r = be64 a'.length ++ a' ++ r') : a = a' ∧ r = r' := by
  rw [List.append_assoc, List.append_assoc] at h
  have h1 := List.append_inj h (by rw [be64_length, be64_length])
  exact List.append_inj h1.2 (be64_inj _ _ ha ha' h1.1)

theorem idsBody_eq_flatMap (l : List Bytes) : idsBody l = l.flatMap fun i => be64 i.length ++ i := by
  induction l with
  | nil => rfl
  | cons i is ih => rw [idsBody, ih, List.flatMap_cons]

theorem idsBody_inj (l l' : List Bytes) (hl : ∀ i ∈ l, i.length < 2 ^ 64) (hl' : ∀ i ∈ l', i.length < 2 ^ 64)
    (h : idsBody l = idsBody l') : l = l' := by
  rw [idsBody_eq_flatMap, idsBody_eq_flatMap] at h
  refine flatMap_inj (fun i _ e => ?_) lenPrefixed_inj hl hl' h
  simpa [be64_length] using congrArg List.length e

/-- the ids are told apart by their own length fields; the count in front is not needed -/
theorem idsData_inj (l l' : List Bytes) (hl : ∀ i ∈ l, i.length < 2 ^ 64) (hl' : ∀ i ∈ l', i.length < 2 ^ 64)
    (h : idsData l = idsData l') : l = l' :=
  idsBody_inj l l' hl hl' (List.append_inj h (by rw [be64_length, be64_length])).2

theorem idsDataOld_collision :
    idsDataOld [str "ab", str "c"] = idsDataOld [str "a", str "bc"] ∧ [str "ab", str "c"] ≠ [str "a", str "bc"] := by
  decide

theorem gobBigInt_inj (n n' : Bool) (a a' : Nat) (h : gobBigInt n a = gobBigInt n' a') : n = n' ∧ a = a' := by
  obtain ⟨h1, h2⟩ := List.cons.inj h
  refine ⟨?_, natBytes_inj _ _ h2⟩
  -- the sign is the first byte, 2 or 3
  revert h1
  cases n <;> cases n' <;> decide

end Mps
