import Mps.Algebra
import MpsProofs.AlgebraAttr
import Mathlib.LinearAlgebra.Lagrange
import Mathlib.Tactic.Ring
import Mathlib.Tactic.FieldSimp
import Mathlib.Tactic.LinearCombination
/-
  M2 lemmas, part 1: over the lawful instance of `Ops` (any field `F`, any `F`-module `G`, any finite index list)
  the code's Lagrange formula gives the coefficients at 0, its Horner loops evaluate the polynomial (scalar and
  exponent polynomials, both `IsConstant` representations), and `polynomial.Sum` is the pointwise sum.
-/
namespace Mps.Alg
open Polynomial

section
variable {F G : Type} [Field F] [AddCommGroup G] [Module F G]

def lawful (g : G) : Ops F G where
  zero := 0
  one := 1
  add := fun a b => a + b
  sub := fun a b => a - b
  mul := fun a b => a * b
  neg := fun a => -a
  inv := fun a => a⁻¹
  gzero := 0
  gadd := fun a b => a + b
  gneg := fun a => -a
  smul := fun a P => a • P
  base := g

variable (g : G)

@[simp, alg] theorem lawful_zero : (lawful g : Ops F G).zero = 0 := rfl
@[simp, alg] theorem lawful_one : (lawful g : Ops F G).one = 1 := rfl
@[simp, alg] theorem lawful_add (a b : F) : (lawful g : Ops F G).add a b = a + b := rfl
@[simp, alg] theorem lawful_sub (a b : F) : (lawful g : Ops F G).sub a b = a - b := rfl
@[simp, alg] theorem lawful_mul (a b : F) : (lawful g : Ops F G).mul a b = a * b := rfl
@[simp, alg] theorem lawful_neg (a : F) : (lawful g : Ops F G).neg a = -a := rfl
@[simp, alg] theorem lawful_inv (a : F) : (lawful g : Ops F G).inv a = a⁻¹ := rfl
@[simp, alg] theorem lawful_gzero : (lawful g : Ops F G).gzero = 0 := rfl
@[simp, alg] theorem lawful_gadd (a b : G) : (lawful g : Ops F G).gadd a b = a + b := rfl
@[simp, alg] theorem lawful_gneg (a : G) : (lawful g : Ops F G).gneg a = -a := rfl
@[simp, alg] theorem lawful_smul (a : F) (P : G) : (lawful g : Ops F G).smul a P = a • P := rfl
@[simp, alg] theorem lawful_base : (lawful g : Ops F G).base = g := rfl

@[simp, alg] theorem sumF_lawful (l : List F) : sumF (lawful g : Ops F G) l = l.sum := by
  unfold sumF; exact List.sum_eq_foldl.symm
@[simp, alg] theorem prodF_lawful (l : List F) : prodF (lawful g : Ops F G) l = l.prod := by
  unfold prodF; exact List.prod_eq_foldl.symm
@[simp, alg] theorem sumG_lawful (l : List G) : sumG (lawful g : Ops F G) l = l.sum := by
  unfold sumG; exact List.sum_eq_foldl.symm
@[simp, alg] theorem gsub_lawful (P Q : G) : gsub (lawful g : Ops F G) P Q = P - Q := by
  simp [gsub, sub_eq_add_neg]
@[simp, alg] theorem actBase_lawful (s : F) : actBase (lawful g : Ops F G) s = s • g := rfl

-- the transcriptions that are one formula: `simp only [alg]` unfolds them over `lawful g`
attribute [alg] feldmanCheck finalPublicCmp finalPublicFrost dealShare doernerNewShare doernerPublic
  frostRShare frostR frostResponse frostShareCheck frostAssemble schnorrVerify
  cmpScaleSecret cmpScalePublic cmpSignPublicKey cmpGamma cmpBigDeltaShare cmpDeltaCheck cmpR cmpSigmaShare
  presigSigmaShare ecdsaAssemble presignS presignRBar presignKeyCheck presigShareCheck ecdsaEq
  doeKBInv doeD doeBeta doeR doeAlpha1 doeAlpha2 doeAlpha0 doeTA2 doeGamma1A doeMuPhi doeSigA doeGamma2A doeMuSig
  doeGamma1B doePhiB doeTheta doeSigB doeGamma2B doeSigAB
  deriveShare derivePublic tapDeriveShare tapDerivePublic doernerDeriveReceiver doernerDeriveSender doernerDeriveOld

theorem foldl_add_eq {M : Type} [AddMonoid M] (l : List M) (a : M) : l.foldl (fun x y => x + y) a = a + l.sum := by
  rw [List.sum_eq_foldl, ← List.foldl_assoc (op := fun x y : M => x + y), add_zero]

theorem sum_map_smul {ι : Type} (S : List ι) (v : ι → F) (P : G) : (S.map fun i => v i • P).sum = (S.map v).sum • P := by
  rw [List.sum_smul, List.map_map]; rfl

theorem mapKeys_of_nodup {ι : Type} [DecidableEq ι] (l : List ι) (hl : l.Nodup) : mapKeys l = l := by
  induction l with
  | nil => rfl
  | cons a l ih =>
    have h := List.nodup_cons.mp hl
    simp [mapKeys, h.1, ih h.2]

variable {ι : Type} [DecidableEq ι]

/-- the code's coefficient: the numerator runs over ALL nodes -/
noncomputable def lagCoeff (s : Finset ι) (x : ι → F) (j : ι) : F :=
  (∏ i ∈ s, x i) / (x j * ∏ i ∈ s.erase j, (x i - x j))

theorem lagCoeff_eq_basis_eval (s : Finset ι) (x : ι → F) (hnz : ∀ i ∈ s, x i ≠ 0)
    (j : ι) (hj : j ∈ s) : lagCoeff s x j = (Lagrange.basis s x j).eval 0 := by
  unfold lagCoeff Lagrange.basis Lagrange.basisDivisor
  rw [← Finset.mul_prod_erase s x hj, mul_div_mul_left _ _ (hnz j hj), Polynomial.eval_prod,
    ← Finset.prod_div_distrib]
  refine Finset.prod_congr rfl fun i _ => ?_
  simp only [eval_mul, eval_C, eval_sub, eval_X, zero_sub]
  rw [← neg_sub (x i) (x j), inv_neg, neg_mul_neg, div_eq_inv_mul]

theorem lagCoeff_at_zero (s : Finset ι) (x : ι → F) (hinj : Set.InjOn x s) (hnz : ∀ i ∈ s, x i ≠ 0)
    (f : F[X]) (hdeg : f.degree < s.card) :
    ∑ j ∈ s, lagCoeff s x j * f.eval (x j) = f.eval 0 := by
  have h := Lagrange.eq_interpolate (s := s) (v := x) (f := f) hinj hdeg
  conv_rhs => rw [h]
  rw [Lagrange.interpolate_apply, Polynomial.eval_finsetSum]
  refine Finset.sum_congr rfl fun j hj => ?_
  rw [lagCoeff_eq_basis_eval s x hnz j hj, eval_mul, eval_C, mul_comm]

theorem lagCoeff_pow (s : Finset ι) (x : ι → F) (hinj : Set.InjOn x s) (hnz : ∀ i ∈ s, x i ≠ 0)
    (k : ℕ) (hk : k < s.card) : ∑ j ∈ s, lagCoeff s x j * x j ^ k = 0 ^ k := by
  simpa using lagCoeff_at_zero s x hinj hnz (X ^ k) (by rw [degree_X_pow]; exact_mod_cast hk)

theorem lagCoeff_sum_one (s : Finset ι) (x : ι → F) (hinj : Set.InjOn x s) (hnz : ∀ i ∈ s, x i ≠ 0)
    (hs : s.Nonempty) : ∑ j ∈ s, lagCoeff s x j = 1 := by
  simpa using lagCoeff_pow s x hinj hnz 0 (Finset.card_pos.mpr hs)

theorem lagCoeff_ne_zero (s : Finset ι) (x : ι → F) (hinj : Set.InjOn x s) (hnz : ∀ i ∈ s, x i ≠ 0)
    (j : ι) (hj : j ∈ s) : lagCoeff s x j ≠ 0 := by
  unfold lagCoeff
  refine div_ne_zero (Finset.prod_ne_zero_iff.mpr hnz) (mul_ne_zero (hnz j hj) (Finset.prod_ne_zero_iff.mpr ?_))
  intro i hi
  have hi' := Finset.mem_erase.mp hi
  exact sub_ne_zero.mpr fun e => hi'.1 (hinj hi'.2 hj e)

theorem lagrangeCoeff_lawful (l : List ι) (hl : l.Nodup) (x : ι → F) (j : ι) (hj : j ∈ l) :
    lagrangeCoeff (lawful g : Ops F G) l x j = lagCoeff l.toFinset x j := by
  unfold lagrangeCoeff lagDenominator lagNumerator lagCoeff
  simp only [alg, mapKeys_of_nodup l hl]
  rw [← List.prod_toFinset _ hl, ← List.prod_toFinset _ hl, div_eq_inv_mul]
  congr 2
  rw [← Finset.mul_prod_erase l.toFinset _ (List.mem_toFinset.mpr hj)]
  simp only [beq_self_eq_true, if_true]
  congr 1
  refine Finset.prod_congr rfl fun i hi => ?_
  have hne : i ≠ j := (Finset.mem_erase.mp hi).1
  simp only [beq_iff_eq, hne, if_false, neg_add_eq_sub]

noncomputable def polyOf : List F → F[X]
  | [] => 0
  | c :: cs => C c + X * polyOf cs

theorem horner_eq_eval (cs : List F) (x : F) : evalPoly (lawful g : Ops F G) cs x = (polyOf cs).eval x := by
  induction cs with
  | nil => simp [evalPoly, polyOf]
  | cons c cs ih =>
    simp only [evalPoly, List.foldr_cons, alg, polyOf, eval_add, eval_C, eval_mul, eval_X] at ih ⊢
    rw [ih]; ring

theorem polyOf_coeff (cs : List F) (k : ℕ) : (polyOf cs).coeff k = cs.getD k 0 := by
  induction cs generalizing k with
  | nil => simp [polyOf]
  | cons c cs ih =>
    cases k with
    | zero => simp [polyOf]
    | succ k => simp [polyOf, ih]

theorem polyOf_degree_lt (cs : List F) : (polyOf cs).degree < cs.length := by
  rw [Polynomial.degree_lt_iff_coeff_zero]
  intro m hm
  rw [polyOf_coeff]
  simp [List.getD, hm]

theorem polyOf_eval_zero (cs : List F) : (polyOf cs).eval 0 = cs.headD 0 := by
  cases cs <;> simp [polyOf]

theorem exists_coeffList_of_natDegree_le (f : F[X]) (n : ℕ) (h : f.natDegree ≤ n) :
    ∃ cs : List F, cs.length = n + 1 ∧ cs.headD 0 = f.eval 0 ∧
      ∀ y, evalPoly (lawful g : Ops F G) cs y = f.eval y := by
  have hf : polyOf ((List.range (n + 1)).map f.coeff) = f := by
    ext k
    rw [polyOf_coeff]
    by_cases hk : k < n + 1
    · simp [List.getD, hk]
    · simp [List.getD, hk, coeff_eq_zero_of_natDegree_lt (show f.natDegree < k by omega)]
  exact ⟨(List.range (n + 1)).map f.coeff, by simp, by simp [List.range_succ_eq_map, coeff_zero_eq_eval_zero],
    fun y => by rw [horner_eq_eval, hf]⟩

def hornerG (cs : List G) (x : F) : G := cs.foldr (fun a acc => x • acc + a) 0

@[simp] theorem hornerG_nil (x : F) : hornerG ([] : List G) x = 0 := rfl
@[simp] theorem hornerG_cons (c : G) (cs : List G) (x : F) : hornerG (c :: cs) x = x • hornerG cs x + c := rfl

theorem evalExp_lawful (e : Exponent G) (x : F) :
    evalExp (lawful g : Ops F G) e x = if e.isConstant then x • hornerG e.coeffs x else hornerG e.coeffs x := by
  unfold evalExp hornerG; rfl

theorem expConstant_lawful (e : Exponent G) :
    expConstant (lawful g : Ops F G) e = evalExp (lawful g : Ops F G) e 0 := by
  rw [evalExp_lawful]
  unfold expConstant expConstant?
  cases e.isConstant
  · cases e.coeffs <;> simp
  · simp

theorem hornerG_map_smul (cs : List F) (x : F) :
    hornerG (cs.map fun c => c • g) x = (evalPoly (lawful g : Ops F G) cs x) • g := by
  induction cs with
  | nil => simp [evalPoly]
  | cons c cs ih =>
    simp only [List.map_cons, hornerG_cons, ih, evalPoly, List.foldr_cons, alg]
    rw [add_smul, mul_smul, smul_comm]

theorem expOfPoly_cons [DecidableEq F] (c : F) (cs : List F) :
    expOfPoly (lawful g : Ops F G) (c :: cs) =
      if c = 0 then ⟨true, cs.map (· • g)⟩ else ⟨false, (c :: cs).map (· • g)⟩ := by
  simp only [expOfPoly, alg, beq_iff_eq]; rfl

theorem expOfPoly_shape [DecidableEq F] (cs : List F) (m : ℕ) (h : cs.length = m + 1) :
    (expOfPoly (lawful g : Ops F G) cs).isConstant = decide (cs.headD 0 = 0) ∧
      (expOfPoly (lawful g : Ops F G) cs).coeffs.length = if cs.headD 0 = 0 then m else m + 1 := by
  cases cs with
  | nil => simp at h
  | cons c cs =>
    simp only [List.length_cons, add_left_inj] at h
    by_cases h0 : c = 0 <;> simp [expOfPoly_cons, h0, h]

/-- the `0 • g` that `NewPolynomialExponent` leaves out of the stored list is the `+ 0` it would have contributed -/
theorem evalExp_expOfPoly [DecidableEq F] (cs : List F) (x : F) :
    evalExp (lawful g : Ops F G) (expOfPoly (lawful g : Ops F G) cs) x = (evalPoly (lawful g : Ops F G) cs x) • g := by
  rw [← hornerG_map_smul]
  cases cs with
  | nil => rfl
  | cons c cs => by_cases h : c = 0 <;> simp [expOfPoly_cons, evalExp_lawful, h]

omit [DecidableEq ι] in
/-- weights that interpolate the monomials `Xᵏ`, k < |s|, at 0 interpolate `Xᵐ·H` for every coefficient list `H`
    in `G` with m + |H| ≤ |s| -/
theorem weighted_hornerG (s : Finset ι) (w x : ι → F)
    (hpow : ∀ k, k < s.card → ∑ j ∈ s, w j * x j ^ k = 0 ^ k)
    (cs : List G) (m : ℕ) (hlen : m + cs.length ≤ s.card) :
    ∑ j ∈ s, w j • (x j ^ m • hornerG cs (x j)) = (0 : F) ^ m • hornerG cs (0 : F) := by
  induction cs generalizing m with
  | nil => simp
  | cons c cs ih =>
    simp only [List.length_cons] at hlen
    have e1 : ∀ j, w j • x j ^ m • x j • hornerG cs (x j) = w j • (x j ^ (m + 1) • hornerG cs (x j)) := by
      intro j; rw [pow_succ, mul_smul]
    simp only [hornerG_cons, smul_add, Finset.sum_add_distrib, e1, ih (m + 1) (by omega)]
    simp only [← mul_smul, ← Finset.sum_smul, hpow m (by omega)]
    simp [pow_succ]

theorem hornerG_zipWith_add (p q : List G) (h : p.length = q.length) (x : F) :
    hornerG (List.zipWith (fun a b => a + b) p q) x = hornerG p x + hornerG q x := by
  induction p generalizing q with
  | nil => cases q <;> simp_all
  | cons a p ih =>
    cases q with
    | nil => simp at h
    | cons b q =>
      simp only [List.length_cons, add_left_inj] at h
      simp only [List.zipWith_cons_cons, hornerG_cons, ih q h, smul_add]
      abel

def Uniform (b : Bool) (m : ℕ) (es : List (Exponent G)) : Prop :=
  ∀ e ∈ es, e.isConstant = b ∧ e.coeffs.length = m

theorem addExp_spec (p q : Exponent G) (hb : p.isConstant = q.isConstant) (hl : p.coeffs.length = q.coeffs.length) :
    ∃ r, addExp (lawful g : Ops F G) p q = some r ∧ r.isConstant = p.isConstant ∧
      r.coeffs.length = p.coeffs.length ∧
      ∀ x : F, evalExp (lawful g : Ops F G) r x = evalExp (lawful g : Ops F G) p x + evalExp (lawful g : Ops F G) q x := by
  refine ⟨⟨p.isConstant, List.zipWith (fun a b => a + b) p.coeffs q.coeffs⟩, ?_, rfl, by simp [hl], fun x => ?_⟩
  · simp [addExp, hl, hb]; rfl
  · simp only [evalExp_lawful, ← hb, hornerG_zipWith_add _ _ hl]
    split <;> simp

theorem sumExpFrom_spec (b : Bool) (m : ℕ) (acc : Exponent G) (hacc : acc.isConstant = b ∧ acc.coeffs.length = m)
    (es : List (Exponent G)) (hu : Uniform b m es) :
    ∃ E, sumExpFrom (lawful g : Ops F G) acc es = some E ∧ E.isConstant = b ∧ E.coeffs.length = m ∧
      ∀ x : F, evalExp (lawful g : Ops F G) E x =
        evalExp (lawful g : Ops F G) acc x + (es.map fun e => evalExp (lawful g : Ops F G) e x).sum := by
  induction es generalizing acc with
  | nil => exact ⟨acc, rfl, hacc.1, hacc.2, by simp⟩
  | cons q qs ih =>
    have hq := hu q (by simp)
    obtain ⟨r, hr, hrb, hrl, hrx⟩ := addExp_spec (F := F) g acc q (hacc.1.trans hq.1.symm) (hacc.2.trans hq.2.symm)
    obtain ⟨E, h1, h2, h3, h4⟩ := ih r ⟨hrb.trans hacc.1, hrl.trans hacc.2⟩ (fun e he => hu e (by simp [he]))
    exact ⟨E, by simp [sumExpFrom, hr, h1], h2, h3, fun x => by simp [h4 x, hrx x, add_assoc]⟩

theorem sumExp_spec (b : Bool) (m : ℕ) (es : List (Exponent G)) (hne : es ≠ []) (hu : Uniform b m es) :
    ∃ E, sumExp (lawful g : Ops F G) es = some E ∧ E.isConstant = b ∧ E.coeffs.length = m ∧
      (∀ x : F, evalExp (lawful g : Ops F G) E x = (es.map fun e => evalExp (lawful g : Ops F G) e x).sum) ∧
      expConstant (lawful g : Ops F G) E = (es.map fun e => expConstant (lawful g : Ops F G) e).sum := by
  cases es with
  | nil => exact absurd rfl hne
  | cons p ps =>
    obtain ⟨E, h1, h2, h3, h4⟩ :=
      sumExpFrom_spec (F := F) g b m p (hu p (by simp)) ps (fun e he => hu e (by simp [he]))
    exact ⟨E, h1, h2, h3, h4, by simp only [expConstant_lawful, h4, List.map_cons, List.sum_cons]⟩

end
end Mps.Alg
