import MpsProofs.Handler
import MpsProofs.Typed
import MpsProofs.Digest
/-
  The echo broadcast (C06): `Message.Hash` determines the wire fields of a message that fits the wire format (`MsgOk`;
  `msgOk_of` says when one does), equal echo hashes give equal views or a collision of `H`, and the invariants `BhOk`,
  `OutBv`. Core-only.
-/
namespace Mps.Handler

theorem e_ssid : str "SSID" = [83, 83, 73, 68] := by decide
theorem e_proto : str "Protocol" = [80, 114, 111, 116, 111, 99, 111, 108] := by decide
theorem e_rn : str "Round Number" = [82, 111, 117, 110, 100, 32, 78, 117, 109, 98, 101, 114] := by decide
theorem e_content : str "Content" = [67, 111, 110, 116, 101, 110, 116] := by decide
theorem e_bcast : str "Broadcast" = [66, 114, 111, 97, 100, 99, 97, 115, 116] := by decide
theorem e_bv : str "BroadcastVerification" =
    [66, 114, 111, 97, 100, 99, 97, 115, 116, 86, 101, 114, 105, 102, 105, 99, 97, 116, 105, 111, 110] := by decide
theorem e_msg : str "Message" = [77, 101, 115, 115, 97, 103, 101] := by decide

/-- what `Message.Hash` covers: every field but the decoded view -/
def wire (m : Msg) : Option Bytes × Bytes × Bytes × Bytes × Nat × Option Bytes × Bool × Option Bytes :=
  (m.ssid, m.frm, m.to, m.proto, m.rnd, m.data, m.bcast, m.bv)

/-- what the wire format can carry: a sender, and lengths / round number that fit their fields -/
structure MsgOk (m : Msg) : Prop where
  frm_ne : m.frm ≠ []
  rnd_lt : m.rnd < 256 ^ 8
  items_wf : ∀ i ∈ msgHashItems m, i.WF

instance (i : Item) : Decidable i.WF := by unfold Item.WF; infer_instance

instance (m : Msg) : Decidable (MsgOk m) :=
  decidable_of_iff (m.frm ≠ [] ∧ m.rnd < 256 ^ 8 ∧ ∀ i ∈ msgHashItems m, i.WF)
    ⟨fun h => ⟨h.1, h.2.1, h.2.2⟩, fun h => ⟨h.1, h.2, h.3⟩⟩

/-- every optional item is followed by an item of another domain, except the sender: hence `MsgOk.frm_ne` -/
theorem msgHashItems_eq (m : Msg) : msgHashItems m =
    optItem (str "SSID") m.ssid ++ (optItem (str "ID") (neOpt m.frm) ++ (optItem (str "ID") (neOpt m.to) ++
      (⟨str "Protocol", m.proto⟩ :: ⟨str "Round Number", be64 m.rnd⟩ :: (optItem (str "Content") m.data ++
        (⟨str "Broadcast", [if m.bcast then 1 else 0]⟩ :: optItem (str "BroadcastVerification") m.bv))))) := by
  unfold msgHashItems
  simp only [optItem_neOpt, List.append_assoc, List.cons_append, List.nil_append]
  cases m.ssid <;> cases m.data <;> cases m.bv <;> rfl

theorem msgHashItems_injective (m m' : Msg) (hm : MsgOk m) (hm' : MsgOk m')
    (h : msgHashItems m = msgHashItems m') : wire m = wire m' := by
  have f : ∀ {x : Msg}, MsgOk x → neOpt x.frm = some x.frm := fun hx => if_neg hx.frm_ne
  rw [msgHashItems_eq, msgHashItems_eq, f hm, f hm'] at h
  obtain ⟨h1, h2, h⟩ := optItem_append_inj (by rw [d_id, e_ssid]; decide) h
  obtain ⟨h3, h4, h⟩ := optItem_append_inj (by rw [d_id, e_proto]; decide) h
  obtain ⟨h5, h⟩ := List.cons.inj h
  obtain ⟨h6, h7, h8⟩ := optItem_append_inj (by rw [e_content, e_bcast]; decide) h
  have h5 := beN_inj 8 _ _ hm.rnd_lt hm'.rnd_lt (Item.mk.inj h5).2
  have h7 : m.bcast = m'.bcast := by
    revert h7; cases m.bcast <;> cases m'.bcast <;> decide
  unfold wire
  rw [h1, h2, neOpt_inj h3, h4, h5, h6, h7, optItem_inj h8]

theorem cborUint_length (n : Nat) : (cborUint n).length ≤ 9 := by
  unfold cborUint
  repeat' split
  all_goals simp [beN_length]

theorem optItem_wf {d : Bytes} {o : Option Bytes} (hd : d.length < 2 ^ 64) (ho : ∀ b, o = some b → b.length < 2 ^ 64) :
    ∀ i ∈ optItem d o, i.WF := by
  cases o with
  | none => exact fun i hi => nomatch hi
  | some b => exact fun i hi => List.mem_singleton.mp hi ▸ ⟨hd, ho b rfl⟩

theorem msgOk_of (m : Msg) (h1 : m.frm ≠ []) (h2 : m.rnd < 256 ^ 8) (h3 : ∀ b, m.ssid = some b → b.length < 2 ^ 64)
    (h4 : m.frm.length < 2 ^ 64) (h5 : m.to.length < 2 ^ 64) (h6 : m.proto.length < 2 ^ 64)
    (h7 : ∀ b, m.data = some b → b.length < 2 ^ 64) (h8 : ∀ b, m.bv = some b → b.length < 2 ^ 64) : MsgOk m := by
  refine ⟨h1, h2, fun i hi => ?_⟩
  obtain ⟨d1, d2, d3, d4, d5, d6, d7⟩ : (str "SSID").length < 2 ^ 64 ∧ (str "ID").length < 2 ^ 64 ∧
      (str "Protocol").length < 2 ^ 64 ∧ (str "Round Number").length < 2 ^ 64 ∧ (str "Content").length < 2 ^ 64 ∧
      (str "Broadcast").length < 2 ^ 64 ∧ (str "BroadcastVerification").length < 2 ^ 64 := by
    rw [e_ssid, d_id, e_proto, e_rn, e_content, e_bcast, e_bv]; decide
  have ne : ∀ {b b' : Bytes}, b.length < 2 ^ 64 → neOpt b = some b' → b'.length < 2 ^ 64 := fun {b b'} hb e => by
    unfold neOpt at e
    split at e
    · cases e
    · cases e; exact hb
  -- stated for variables, so that no step compares two spellings of a domain string by evaluating them
  have mk : ∀ d b : Bytes, d.length < 2 ^ 64 → b.length < 2 ^ 64 → Item.WF ⟨d, b⟩ := fun _ _ hd hb => ⟨hd, hb⟩
  rw [msgHashItems_eq] at hi
  simp only [List.mem_append, List.mem_cons] at hi
  rcases hi with hi | hi | hi | rfl | rfl | hi | rfl | hi
  · exact optItem_wf d1 h3 i hi
  · exact optItem_wf d2 (fun _ => ne h4) i hi
  · exact optItem_wf d2 (fun _ => ne h5) i hi
  · exact mk _ _ d3 h6
  · exact mk _ _ d4 (by rw [be64_length]; decide)
  · exact optItem_wf d5 h7 i hi
  · exact mk _ _ d6 (by show 1 < 2 ^ 64; decide)
  · exact optItem_wf d7 h8 i hi

theorem emitFor_wire (s : State) (nx : RoundSpec) (m : Msg) (hm : m ∈ emitFor s nx) :
    (m.to = [] ∨ m.to ∈ s.sc.ids) ∧ ∃ c, m.data = some (cborContent c) := by
  obtain ⟨-, -, -, ⟨c, -, -, hc⟩, ht, -⟩ := emitW_fields hm
  exact ⟨ht, c, hc⟩

theorem cborContent_length (c : Content) : (cborContent c).length < 2 ^ 64 := by
  unfold cborContent
  have h1 := cborUint_length c.v
  have h2 := cborUint_length c.f
  simp only [List.length_cons, List.length_append]
  have : (2 : Nat) ^ 64 = 18446744073709551616 := by decide
  omega

theorem lookup_mem (q : List (Nat × Bytes × Msg)) (r : Nat) (id : Bytes) (m : Msg) (h : lookup q r id = some m) :
    ∃ e ∈ q, e.2.2 = m := by
  obtain ⟨e, he, hm, -⟩ := lookup_keys q r id m h
  exact ⟨e, he, hm⟩

def msgItem (H : Bytes → Bytes) (o : Option Msg) : Option Item := o.map fun m => ⟨str "Message", msgHash H m⟩

theorem echoHash_some (H : Bytes → Bytes) (sc : Script) (bc : List (Nat × Bytes × Msg)) (r : Nat) (h : Bytes)
    (e : echoHash H sc bc r = some h) :
    (∀ id ∈ sc.ids, (lookup bc r id).isSome = true) ∧
    h = digestWith H (sc.sess ++ (sc.ids.map fun id => lookup bc r id).filterMap (msgItem H)) := by
  unfold echoHash at e
  simp only at e
  split at e
  · next hall =>
    cases e
    simp only [List.all_map, List.all_eq_true] at hall
    exact ⟨hall, rfl⟩
  · cases e

theorem view_pointwise (H : Bytes → Bytes) (f g : Bytes → Option Msg) (ids : List Bytes)
    (h1 : ∀ id ∈ ids, (f id).isSome = true) (h2 : ∀ id ∈ ids, (g id).isSome = true)
    (e : (ids.map f).filterMap (msgItem H) = (ids.map g).filterMap (msgItem H)) :
    ∀ id ∈ ids, ∃ m m', f id = some m ∧ g id = some m' ∧ msgHash H m = msgHash H m' := by
  induction ids with
  | nil => intro id hid; cases hid
  | cons a rest ih =>
    obtain ⟨m, hm⟩ := Option.isSome_iff_exists.mp (h1 a (List.mem_cons_self ..))
    obtain ⟨m', hm'⟩ := Option.isSome_iff_exists.mp (h2 a (List.mem_cons_self ..))
    have g : ∀ x : Msg, msgItem H (some x) = some ⟨str "Message", msgHash H x⟩ := fun _ => rfl
    simp only [List.map_cons, hm, hm', List.filterMap_cons_some (g _), List.cons.injEq, Item.mk.injEq, true_and] at e
    intro id hid
    rcases List.mem_cons.mp hid with rfl | hid
    · exact ⟨m, m', hm, hm', e.1⟩
    · exact ih (fun x hx => h1 x (List.mem_cons_of_mem _ hx)) (fun x hx => h2 x (List.mem_cons_of_mem _ hx)) e.2 id hid

/-- the items whose digest is the echo hash of round `r` over the view `bc` -/
def echoItems (H : Bytes → Bytes) (sc : Script) (bc : List (Nat × Bytes × Msg)) (r : Nat) : List Item :=
  sc.sess ++ (sc.ids.map fun id => lookup bc r id).filterMap (msgItem H)

/-- The collision that two different views with one echo hash exhibit: the two echo transcripts, or the transcripts of
    the two copies of one participant's broadcast. (The bare `∃ x y, x ≠ y ∧ H x = H y` of the property statements
    follows, but holds of every `H` with bounded output.) -/
def EchoCollision (H : Bytes → Bytes) (sc : Script) (bc bc' : List (Nat × Bytes × Msg)) (r : Nat) : Prop :=
  (transcript (echoItems H sc bc r) ≠ transcript (echoItems H sc bc' r) ∧
    H (transcript (echoItems H sc bc r)) = H (transcript (echoItems H sc bc' r))) ∨
  ∃ id ∈ sc.ids, ∃ m m', lookup bc r id = some m ∧ lookup bc' r id = some m' ∧
    transcript (msgHashItems m) ≠ transcript (msgHashItems m') ∧ msgHash H m = msgHash H m'

theorem EchoCollision.collision {H : Bytes → Bytes} {sc : Script} {bc bc' : List (Nat × Bytes × Msg)} {r : Nat}
    (c : EchoCollision H sc bc bc' r) : ∃ x y : Bytes, x ≠ y ∧ H x = H y := by
  rcases c with c | ⟨_, _, _, _, _, _, c⟩ <;> exact ⟨_, _, c⟩

theorem echoHash_agree_or (H : Bytes → Bytes) (hH : ∀ x, (H x).length < 2 ^ 64) (sc : Script)
    (bc bc' : List (Nat × Bytes × Msg)) (r : Nat) (h : Bytes) (hs : ∀ i ∈ sc.sess, i.WF)
    (ok : ∀ e ∈ bc, MsgOk e.2.2) (ok' : ∀ e ∈ bc', MsgOk e.2.2)
    (e1 : echoHash H sc bc r = some h) (e2 : echoHash H sc bc' r = some h) :
    (∀ id ∈ sc.ids, ∃ m m', lookup bc r id = some m ∧ lookup bc' r id = some m' ∧ wire m = wire m') ∨
    EchoCollision H sc bc bc' r := by
  obtain ⟨p1, d1⟩ := echoHash_some H sc bc r h e1
  obtain ⟨p2, d2⟩ := echoHash_some H sc bc' r h e2
  have wf : ∀ (q : List (Nat × Bytes × Msg)), ∀ i ∈ echoItems H sc q r, i.WF := by
    intro q i hi
    rcases List.mem_append.mp hi with hi | hi
    · exact hs i hi
    · obtain ⟨o, -, ho⟩ := List.mem_filterMap.mp hi
      obtain ⟨m, -, rfl⟩ := Option.map_eq_some_iff.mp ho
      exact ⟨by show (str "Message").length < _; rw [e_msg]; decide, hH _⟩
  rcases hash_transcript_inj H _ _ (wf bc) (wf bc') (d1.symm.trans d2) with hl | col
  · by_cases c : ∃ id ∈ sc.ids, ∃ m m', lookup bc r id = some m ∧ lookup bc' r id = some m' ∧
        transcript (msgHashItems m) ≠ transcript (msgHashItems m') ∧ msgHash H m = msgHash H m'
    · exact .inr (.inr c)
    -- the two views are equal item by item, and so are the inputs of the message hashes
    refine .inl fun id hid => ?_
    obtain ⟨m, m', hm, hm', hh⟩ := view_pointwise H _ _ sc.ids p1 p2 (List.append_cancel_left hl) id hid
    obtain ⟨e, he, rfl⟩ := lookup_mem bc r id m hm
    obtain ⟨e', he', rfl⟩ := lookup_mem bc' r id m' hm'
    have k := ok e he
    have k' := ok' e' he'
    refine ⟨_, _, hm, hm', msgHashItems_injective _ _ k k' ?_⟩
    exact (hash_transcript_inj H _ _ k.items_wf k'.items_wf hh).resolve_right
      fun col => c ⟨id, hid, _, _, hm, hm', col.1, hh⟩
  · exact .inr (.inl col)

theorem check_passes_imp_bv (s : State) (prev : Bytes) (hp : bhLookup s.bh (s.cur - 1) = some prev)
    (hc : checkBroadcastHash s = true) :
    (∀ e ∈ s.msgs, e.1 = s.cur → e.2.2.bv.getD [] = prev) ∧ (∀ e ∈ s.bc, e.1 = s.cur → e.2.2.bv.getD [] = prev) :=
  (checkBroadcastHash_iff s).mp hc prev hp

/-- the protocol's `Finalize` (next round, output, abort round, error) is not reached before the echo check passes -/
theorem finalizeStep_checked (H : Bytes → Bytes) (s : State) :
    finalizeStep H s = .halt (fillBh H s) ∨ finalizeStep H s = .halt (abort (fillBh H s) (some .echoMismatch)) ∨
    checkBroadcastHash (fillBh H s) = true := by
  apply finalizeStep_cases H s (motive := fun st => st = .halt (fillBh H s) ∨
    st = .halt (abort (fillBh H s) (some .echoMismatch)) ∨ checkBroadcastHash (fillBh H s) = true)
  case stay => exact Or.inl rfl
  case echo => exact fun _ _ => Or.inr (Or.inl rfl)
  case finErr => exact fun _ hc _ => Or.inr (Or.inr hc)
  case protoAbort => exact fun _ _ hc _ => Or.inr (Or.inr hc)
  case output => exact fun _ _ hc _ => Or.inr (Or.inr hc)
  case sent => exact fun _ _ _ hc _ => Or.inr (Or.inr hc)
  case replayed => exact fun _ _ _ _ _ hc _ _ => Or.inr (Or.inr hc)

def BhOk (H : Bytes → Bytes) (s : State) : Prop :=
  ∀ r h, bhLookup s.bh r = some h → echoHash H s.sc s.bc r = some h

theorem echoHash_ext (H : Bytes → Bytes) (sc : Script) (bc bc' : List (Nat × Bytes × Msg)) (r : Nat)
    (hl : ∀ id ∈ sc.ids, lookup bc r id = lookup bc' r id) : echoHash H sc bc r = echoHash H sc bc' r := by
  have : (sc.ids.map fun id => lookup bc r id) = (sc.ids.map fun id => lookup bc' r id) := List.map_congr_left hl
  unfold echoHash
  simp only [this]

theorem echoHash_script_congr (H : Bytes → Bytes) (sc sc' : Script) (bc : List (Nat × Bytes × Msg)) (r : Nat)
    (h1 : sc.ids = sc'.ids) (h2 : sc.sess = sc'.sess) : echoHash H sc bc r = echoHash H sc' bc r := by
  unfold echoHash
  rw [h1, h2]

theorem store_bhOk (H : Bytes → Bytes) (s : State) (m : Msg) (o : BhOk H s) : BhOk H (store s m) := by
  intro r h hr
  rw [store_bh] at hr
  have e := o r h hr
  rw [store_sc]
  refine (echoHash_ext H s.sc _ s.bc r fun id hid => ?_).trans e
  -- the first entry under a key wins
  obtain ⟨x, hx⟩ := Option.isSome_iff_exists.mp ((echoHash_some H s.sc s.bc r h e).1 id hid)
  rw [lookup_store_bc', hx]; rfl

theorem fillBh_bhOk (H : Bytes → Bytes) (s : State) (o : BhOk H s) : BhOk H (fillBh H s) := by
  intro r y hr
  rw [bhLookup_fillBh] at hr
  rw [fillBh_eq]
  cases hb : bhLookup s.bh r with
  | some z => rw [hb] at hr; cases hr; exact o r _ hb
  | none =>
    rw [hb, Option.none_or] at hr
    split at hr
    · next hc => rw [← beq_iff_eq.mp (Bool.and_eq_true_iff.mp hc).2]; exact hr
    · cases hr

theorem bhOk_preserved (H : Bytes → Bytes) : Preserved H (BhOk H) :=
  preserved_of_queues H _ (fun _ _ o h1 _ h3 h4 => by unfold BhOk at *; rw [← h1, ← h3, ← h4]; exact o)
    (store_bhOk H) (fillBh_bhOk H)

theorem reach_bhOk (H : Bytes → Bytes) (sc : Script) (s : State) (r : Reach H sc s) : BhOk H s :=
  reach_pres (bhOk_preserved H) sc (fun _ _ hr => nomatch hr) s r

theorem run_bhOk (H : Bytes → Bytes) (sc : Script) (calls : List Call) : BhOk H (run H sc calls) :=
  reach_bhOk H sc _ (run_reach H sc calls)

def OutBv (s : State) : Prop :=
  ∀ m ∈ s.out, ∀ x, m.bv = some x → bhLookup s.bh (m.rnd - 1) = some x

theorem bhLookup_mono_fill (H : Bytes → Bytes) (s : State) (r : Nat) (x : Bytes) (h : bhLookup s.bh r = some x) :
    bhLookup (fillBh H s).bh r = some x := by
  rw [bhLookup_fillBh, h]; rfl

theorem outBv_preserved (H : Bytes → Bytes) : Preserved H OutBv where
  onCore := fun h o => by rw [sameCore_iff.mp h]; exact o
  onStore := fun s m o => by rw [store_with]; exact o
  onFill := fun s o m hm x hx => by
    rw [fillBh_eq] at hm
    exact bhLookup_mono_fill H s _ x (o m hm x hx)
  onAbort := fun s e o => by
    cases e with
    | none => exact o
    | some k =>
      intro m hm x hx
      rcases List.mem_append.mp hm with hm | hm
      · exact o m hm x hx
      · cases List.mem_singleton.mp hm; cases hx
  onSend := fun s nx o m hm x hx => by
    rw [sendAll_with] at hm ⊢
    rcases List.mem_append.mp hm with hm | hm
    · exact o m hm x hx
    · obtain ⟨to, b, -, rfl⟩ := mem_emitFor hm
      exact hx
  onEnter := fun _ _ _ _ _ o => o
  onEnter0 := fun _ o => o
  onOutput := fun _ _ o => o

theorem reach_outBv (H : Bytes → Bytes) (sc : Script) (s : State) (r : Reach H sc s) : OutBv s :=
  reach_pres (outBv_preserved H) sc (fun _ hm => nomatch hm) s r

theorem run_outBv (H : Bytes → Bytes) (sc : Script) (calls : List Call) : OutBv (run H sc calls) :=
  reach_outBv H sc _ (run_reach H sc calls)

end Mps.Handler
