import MpsProofs.TwoParty
import MpsProofs.Confluence
/-
  Lemmas for C07 on the two-party handler model (Mps/TwoParty.lean): the outcome of a handler that is only
  given honest messages does not depend on the order, repetition, earliness or lateness of the deliveries.

  By normal forms. `advance` looks at the store only through `lookup2` at the round it is in (`advance_setMsgs`), so
  states that agree but for the layout of the store (`Sim2`) stay so under every call. A message that sits in the
  store while `advance` runs through the rounds gives the same state as delivering it afterwards, be it early, in
  time or late (`insert2`); hence delivering one more message to the normal form of a list gives the normal form of
  the longer list (`canon2_snoc`), every delivery sequence ends in the normal form of its list (`run2_canon`), and
  the normal form depends only on the set of messages (`canon2_sim`). Core-only.
-/
namespace Mps.TwoParty
open Mps.Handler

def setMsgs (s : State2) (q : List (Nat × Msg)) : State2 := { s with msgs := q }

def Step2.setMsgs : Step2 → List (Nat × Msg) → Step2
  | .halt s, q => .halt (TwoParty.setMsgs s q)
  | .more s, q => .more (TwoParty.setMsgs s q)

theorem setMsgs_setMsgs (s : State2) (q q' : List (Nat × Msg)) : setMsgs (setMsgs s q) q' = setMsgs s q' := rfl

theorem abort2_setMsgs (s : State2) (q : List (Nat × Msg)) (e : Option Err2) :
    abort2 (setMsgs s q) e = setMsgs (abort2 s e) q := by
  cases e <;> rfl

theorem finish_setMsgs (r : Round2) (s : State2) (q : List (Nat × Msg)) :
    finish r (setMsgs s q) = (finish r s).setMsgs q := by
  unfold finish
  by_cases h1 : (s.sc.finErrAt != 0 && s.sc.finErrAt == s.cur) = true
  · simp only [setMsgs, h1, if_true]; rfl
  · by_cases h2 : s.accuse = true
    · simp only [setMsgs, h1, h2, if_true]; rfl
    · cases h3 : s.sc.rounds[s.idx + 1]? with
      | none => simp only [setMsgs, h1, h2, h3]; rfl
      | some nx => simp only [setMsgs, h1, h2, h3]; rfl

theorem canAdvance_setMsgs (s : State2) (q : List (Nat × Msg)) (h : lookup2 q s.cur = lookup2 s.msgs s.cur) :
    canAdvance (setMsgs s q) = canAdvance s := by
  unfold canAdvance
  simp only [setMsgs, h]
  rfl

theorem advanceStep_setMsgs (s : State2) (q : List (Nat × Msg)) (h : lookup2 q s.cur = lookup2 s.msgs s.cur) :
    advanceStep (setMsgs s q) = (advanceStep s).setMsgs q := by
  rw [advanceStep_eq, advanceStep_eq, canAdvance_setMsgs s q h]
  -- apart from the lookup, the left side reads fields that `setMsgs` leaves alone
  show (if _ then _ else match storeV (curRound s).recv s.acc s.accuse (lookup2 q s.cur) with | none => _ | some p => _) = _
  rw [h]
  split
  · rfl
  · cases storeV (curRound s).recv s.acc s.accuse (lookup2 s.msgs s.cur) with
    | none => exact congrArg Step2.halt (abort2_setMsgs s q _)
    | some p => exact finish_setMsgs (curRound s) { s with acc := p.1, accuse := p.2 } q

theorem lookup2_put2 (q : List (Nat × Msg)) (r r' : Nat) (m : Msg) :
    lookup2 (put2 q r m) r' = if r' = r then some m else lookup2 q r' := by
  unfold lookup2 put2
  by_cases h : r' = r
  · subst h; simp
  · have h' : (r == r') = false := by simpa using (Ne.symm h)
    simp only [List.find?_cons, h', h, if_false]
    congr 1
    rw [List.find?_filter]
    congr 1
    funext e
    by_cases he : e.1 = r'
    · have : e.1 ≠ r := fun x => h (he.symm.trans x)
      simp [he, h]
    · simp [he]

theorem advance_setMsgs (f : Nat) (s : State2) (q : List (Nat × Msg)) (h : ∀ r, lookup2 q r = lookup2 s.msgs r) :
    advance f (setMsgs s q) = setMsgs (advance f s) q := by
  induction f generalizing s with
  | zero => rfl
  | succ f ih =>
    unfold advance
    rw [advanceStep_setMsgs s q (h s.cur)]
    cases hs : advanceStep s with
    | halt s' => rfl
    | more s' =>
      simp only [Step2.setMsgs]
      -- with the next state spelled out, its store is `s.msgs` by reduction
      obtain ⟨a, nx, -, rfl⟩ := advanceStep_more hs
      exact ih _ h

theorem advance_msgs (f : Nat) (s : State2) : (advance f s).msgs = s.msgs := by
  have h : advance f s = setMsgs (advance f s) s.msgs := advance_setMsgs f s s.msgs fun _ => rfl
  rw [h]; rfl

/-- `f` iterations suffice to run `advance` from `s` to its end -/
def Enough (f : Nat) (s : State2) : Prop := s.sc.rounds.length ≤ f + s.idx ∧ 1 ≤ f

theorem Enough.more {f : Nat} {s s' : State2} (h : Enough (f + 1) s) (hs : advanceStep s = .more s') : Enough f s' := by
  obtain ⟨a, nx, hn, rfl⟩ := advanceStep_more hs
  have hlt := (List.getElem?_eq_some_iff.mp hn).1
  have h1 := h.1
  exact ⟨show s.sc.rounds.length ≤ f + (s.idx + 1) by omega, by omega⟩

theorem advance_fuel (f f' : Nat) (s : State2) (h : Enough f s) (h' : Enough f' s) : advance f s = advance f' s := by
  induction f generalizing f' s with
  | zero => exact absurd h.2 (by omega)
  | succ f ih =>
    cases f' with
    | zero => exact absurd h'.2 (by omega)
    | succ f' =>
      unfold advance
      cases hs : advanceStep s with
      | halt s' => rfl
      | more s' => exact ih f' s' (h.more hs) (h'.more hs)

theorem enough_full (s : State2) : Enough (s.sc.rounds.length + 1) s := by unfold Enough; omega

/-- all fields but the store agree -/
def FEq2 (a b : State2) : Prop := setMsgs a [] = setMsgs b []

def Sim2 (a b : State2) : Prop := FEq2 a b ∧ ∀ r, lookup2 a.msgs r = lookup2 b.msgs r

theorem FEq2.refl (a : State2) : FEq2 a a := rfl
theorem FEq2.symm {a b : State2} (h : FEq2 a b) : FEq2 b a := Eq.symm h
theorem FEq2.trans {a b c : State2} (h : FEq2 a b) (h' : FEq2 b c) : FEq2 a c := Eq.trans h h'
theorem Sim2.refl (a : State2) : Sim2 a a := ⟨rfl, fun _ => rfl⟩
theorem Sim2.symm {a b : State2} (h : Sim2 a b) : Sim2 b a := ⟨h.1.symm, fun r => (h.2 r).symm⟩
theorem Sim2.trans {a b c : State2} (h : Sim2 a b) (h' : Sim2 b c) : Sim2 a c :=
  ⟨h.1.trans h'.1, fun r => (h.2 r).trans (h'.2 r)⟩

/-- `rw [h.eq]` turns a statement about `b` into one about `setMsgs a _`, where all but the store reduces to `a`'s -/
theorem FEq2.eq {a b : State2} (h : FEq2 a b) : b = setMsgs a b.msgs := by
  have := congrArg (setMsgs · b.msgs) h
  simp only [setMsgs_setMsgs] at this
  exact this.symm

theorem FEq2.fields {a b : State2} (h : FEq2 a b) :
    a.sc = b.sc ∧ a.idx = b.idx ∧ a.cur = b.cur ∧ a.ended = b.ended ∧ a.err = b.err ∧ a.result = b.result ∧
    a.out = b.out ∧ a.closes = b.closes ∧ a.acc = b.acc ∧ a.accuse = b.accuse := by
  rw [h.eq]
  exact ⟨rfl, rfl, rfl, rfl, rfl, rfl, rfl, rfl, rfl, rfl⟩

theorem FEq2.err {a b : State2} (h : FEq2 a b) : a.err = b.err := h.fields.2.2.2.2.1

theorem terminal2_feq {a b : State2} (h : FEq2 a b) : terminal2 a = terminal2 b := by
  rw [h.eq]; rfl

theorem Sim2.canAdvance {a b : State2} (h : Sim2 a b) : canAdvance a = canAdvance b := by
  rw [h.1.eq, canAdvance_setMsgs a b.msgs (h.2 a.cur).symm]

theorem advance_sim (f : Nat) {a b : State2} (h : Sim2 a b) : Sim2 (advance f a) (advance f b) := by
  obtain ⟨hf, hl⟩ := h
  rw [hf.eq, advance_setMsgs f a b.msgs fun r => (hl r).symm]
  exact ⟨rfl, fun r => (congrArg (lookup2 · r) (advance_msgs f a)).trans (hl r)⟩

theorem abort2_sim {a b : State2} (h : Sim2 a b) (e : Option Err2) : Sim2 (abort2 a e) (abort2 b e) := by
  obtain ⟨hf, hl⟩ := h
  rw [hf.eq, abort2_setMsgs]
  exact ⟨rfl, fun r => by cases e <;> exact hl r⟩

theorem accept2_sim {a b : State2} (h : Sim2 a b) (m : Msg) : Sim2 (accept2 a m) (accept2 b m) := by
  have e1 : canAccept2 b m = canAccept2 a m := by rw [h.1.eq]; rfl
  have e2 : b.sc = a.sc := by rw [h.1.eq]; rfl
  unfold accept2
  rw [e1, ← terminal2_feq h.1, e2]
  split
  · exact h
  · split
    · exact abort2_sim h _
    · refine advance_sim _ ⟨?_, fun r => ?_⟩
      · rw [h.1.eq]; rfl
      · show lookup2 (put2 a.msgs m.rnd m) r = lookup2 (put2 b.msgs m.rnd m) r
        rw [lookup2_put2, lookup2_put2, h.2 r]

theorem stop2_sim {a b : State2} (h : Sim2 a b) : Sim2 (stop2 a) (stop2 b) := by
  unfold stop2
  rw [← terminal2_feq h.1]
  split
  · exact h
  · exact abort2_sim h _

theorem apply2_sim {a b : State2} (h : Sim2 a b) (c : Call2) : Sim2 (apply2 a c) (apply2 b c) := by
  cases c
  · exact accept2_sim h _
  · exact h
  · exact h
  · exact h
  · exact stop2_sim h

/-- `Sim2`, or finished with the same outcome: a finished handler stores nothing, so the stores may differ -/
def Out2 (a b : State2) : Prop := Sim2 a b ∨ (terminal2 a = true ∧ FEq2 a b)

theorem Out2.feq {a b : State2} (h : Out2 a b) : FEq2 a b := h.elim (·.1) (·.2)
theorem Out2.refl (a : State2) : Out2 a a := Or.inl (Sim2.refl a)
theorem Out2.symm {a b : State2} (h : Out2 a b) : Out2 b a := by
  rcases h with h | ⟨ht, hf⟩
  · exact Or.inl h.symm
  · exact Or.inr ⟨by rw [← terminal2_feq hf]; exact ht, hf.symm⟩
theorem Out2.trans {a b c : State2} (h : Out2 a b) (h' : Out2 b c) : Out2 a c := by
  rcases h with h | ⟨ht, hf⟩
  · rcases h' with h' | ⟨ht', hf'⟩
    · exact Or.inl (h.trans h')
    · exact Or.inr ⟨by rw [terminal2_feq h.1]; exact ht', h.1.trans hf'⟩
  · exact Or.inr ⟨ht, hf.trans h'.feq⟩

theorem accept2_out {a b : State2} (h : Out2 a b) (m : Msg) : Out2 (accept2 a m) (accept2 b m) := by
  rcases h with h | ⟨ht, hf⟩
  · exact Or.inl (accept2_sim h m)
  · have hb : terminal2 b = true := by rw [← terminal2_feq hf]; exact ht
    rw [accept2_terminal a m ht, accept2_terminal b m hb]
    exact Or.inr ⟨ht, hf⟩

/-- `m` is what the honest peer sends to the party running `sc` -/
structure HonestMsg2 (sc : Script2) (m : Msg) : Prop where
  fromPeer : m.frm = sc.peer
  known : m.frm ∈ sc.ids
  notSelf : m.frm ≠ sc.self
  toMe : m.to = [] ∨ m.to = sc.self
  proto : m.proto = sc.proto
  ssid : m.ssid.getD [] = sc.ssid
  data : m.data.isSome = true
  rndPos : 1 ≤ m.rnd
  rndLe : m.rnd ≤ sc.final
  p2p : m.bcast = false
  kind : ∃ sp ∈ sc.rounds, sp.num = m.rnd ∧ sp.recv = true
  content : m.dec.map (·.f) = some 0

instance (sc : Script2) (m : Msg) : Decidable (HonestMsg2 sc m) :=
  decidable_of_iff (m.frm = sc.peer ∧ m.frm ∈ sc.ids ∧ m.frm ≠ sc.self ∧ (m.to = [] ∨ m.to = sc.self) ∧
      m.proto = sc.proto ∧ m.ssid.getD [] = sc.ssid ∧ m.data.isSome = true ∧ 1 ≤ m.rnd ∧ m.rnd ≤ sc.final ∧
      m.bcast = false ∧ (∃ sp ∈ sc.rounds, sp.num = m.rnd ∧ sp.recv = true) ∧ m.dec.map (·.f) = some 0)
    ⟨fun h => ⟨h.1, h.2.1, h.2.2.1, h.2.2.2.1, h.2.2.2.2.1, h.2.2.2.2.2.1, h.2.2.2.2.2.2.1, h.2.2.2.2.2.2.2.1,
        h.2.2.2.2.2.2.2.2.1, h.2.2.2.2.2.2.2.2.2.1, h.2.2.2.2.2.2.2.2.2.2.1, h.2.2.2.2.2.2.2.2.2.2.2⟩,
     fun h => ⟨h.1, h.2, h.3, h.4, h.5, h.6, h.7, h.8, h.9, h.10, h.11, h.12⟩⟩

/-- `M` is a set of messages the honest peer sends to the party running `sc` in one session. Without `script` or
    without `uniq` the order matters: the counterexamples in MpsProps/C07TwoParty.lean. -/
structure Honest2 (sc : Script2) (M : List Msg) : Prop where
  script : sc.rounds.Pairwise (fun a b => a.num ≠ b.num)
  msgs : ∀ m ∈ M, HonestMsg2 sc m
  uniq : ∀ m ∈ M, ∀ m' ∈ M, m.rnd = m'.rnd → m = m'

instance (sc : Script2) (M : List Msg) : Decidable (Honest2 sc M) :=
  decidable_of_iff (sc.rounds.Pairwise (fun a b => a.num ≠ b.num) ∧ (∀ m ∈ M, HonestMsg2 sc m) ∧
      ∀ m ∈ M, ∀ m' ∈ M, m.rnd = m'.rnd → m = m')
    ⟨fun h => ⟨h.1, h.2.1, h.2.2⟩, fun h => ⟨h.1, h.2, h.3⟩⟩

theorem Honest2.subset {sc : Script2} {M M' : List Msg} (hM : Honest2 sc M) (h : ∀ m ∈ M', m ∈ M) : Honest2 sc M' :=
  ⟨hM.script, fun m hm => hM.msgs m (h m hm), fun m hm m' hm' e => hM.uniq m (h m hm) m' (h m' hm') e⟩

variable {sc : Script2} {M : List Msg}

theorem canAccept2_honest {s : State2} {m : Msg} (hs : s.sc = sc) (hh : HonestMsg2 sc m) : canAccept2 s m = true := by
  unfold canAccept2 isFor
  rw [hs]
  have h1 : (m.frm == sc.self) = false := by simpa using hh.notSelf
  have h3 : (m.rnd > sc.final) = False := by simpa using hh.rndLe
  simp [h1, hh.toMe, hh.proto, hh.ssid, hh.known, hh.data, h3]

/-- the invariant of a running handler that has only been given messages of an honest set -/
structure Inv2 (sc : Script2) (M : List Msg) (s : State2) : Prop where
  hsc : s.sc = sc
  ended : s.ended = false
  err : s.err = none
  result : s.result = none
  accuse : s.accuse = false
  cur : s.cur = (curRound s).num
  idx : sc.rounds ≠ [] → s.idx < sc.rounds.length
  stored : ∀ r x, lookup2 s.msgs r = some x → x ∈ M ∧ x.rnd = r

theorem canAdvance_eq {s : State2} (h : s.ended = false) :
    canAdvance s = (!(curRound s).recv || (lookup2 s.msgs s.cur).isSome) := by
  unfold canAdvance
  rw [h]
  cases (curRound s).recv <;> rfl

theorem curRound_eq {s : State2} (hs : s.sc = sc) : curRound s = sc.rounds.getD s.idx default := by
  unfold curRound; rw [hs]

theorem Inv2.curRound_mem {s : State2} (inv : Inv2 sc M s) (hne : sc.rounds ≠ []) : curRound s ∈ sc.rounds := by
  have h := inv.idx hne
  rw [curRound_eq inv.hsc, ← List.getElem_eq_getD (h := h)]
  exact List.getElem_mem h

theorem stuck_recv {s : State2} (inv : Inv2 sc M s) (hw : canAdvance s = false) :
    (curRound s).recv = true ∧ lookup2 s.msgs s.cur = none := by
  rw [canAdvance_eq inv.ended] at hw
  simpa using hw

theorem Inv2.recv {s : State2} (hM : Honest2 sc M) (inv : Inv2 sc M s) (x : Msg) (hx : x ∈ M) (hr : x.rnd = s.cur) :
    (curRound s).recv = true := by
  obtain ⟨sp, hsp, hn, hrecv⟩ := (hM.msgs x hx).kind
  have hc := inv.curRound_mem (List.ne_nil_of_mem hsp)
  have : sp = curRound s := pairwise_ne_inj hM.script hsp hc (by rw [hn, hr, inv.cur])
  rw [← this]; exact hrecv

theorem Inv2.has_cur {s : State2} (hM : Honest2 sc M) (inv : Inv2 sc M s) (hc : canAdvance s = true) (m : Msg) (hm : m ∈ M)
    (hr : m.rnd = s.cur) : lookup2 s.msgs s.cur = some m := by
  rw [canAdvance_eq inv.ended, inv.recv hM m hm hr] at hc
  obtain ⟨x, hx⟩ := Option.isSome_iff_exists.mp hc
  obtain ⟨hxM, hxr⟩ := inv.stored _ _ hx
  rw [hx, hM.uniq x hxM m hm (hxr.trans hr.symm)]

theorem Inv2.not_terminal {s : State2} (inv : Inv2 sc M s) : terminal2 s = false := by
  simp [terminal2, inv.err, inv.result]

theorem Inv2.withStore {s : State2} (inv : Inv2 sc M s) (q : List (Nat × Msg))
    (h : ∀ r x, lookup2 q r = some x → x ∈ M ∧ x.rnd = r) : Inv2 sc M (setMsgs s q) :=
  { inv with stored := h }

theorem Inv2.of_sim {a b : State2} (inv : Inv2 sc M a) (h : Sim2 a b) : Inv2 sc M b :=
  h.1.eq ▸ inv.withStore b.msgs fun r x hx => inv.stored r x ((h.2 r).trans hx)

def gain (lk : Option Msg) : Nat := ((lk.bind (·.dec)).map (·.v)).getD 0

theorem storeV_honest {s : State2} (hM : Honest2 sc M) (inv : Inv2 sc M s) :
    storeV (curRound s).recv s.acc s.accuse (lookup2 s.msgs s.cur) =
      some (s.acc + gain (lookup2 s.msgs s.cur), s.accuse) := by
  cases hl : lookup2 s.msgs s.cur with
  | none => rfl
  | some x =>
    obtain ⟨hx, hr⟩ := inv.stored _ _ hl
    have hc := (hM.msgs x hx).content
    cases hd : x.dec with
    | none => simp [hd] at hc
    | some c =>
      obtain ⟨v, f⟩ := c
      obtain rfl : f = 0 := by simpa [hd] using hc
      simp only [storeV, inv.recv hM x hx hr, hd, gain, Option.bind_some, Option.map_some, Option.getD_some]
      simp [hasFlag]

theorem advanceStep_honest {s : State2} (hM : Honest2 sc M) (inv : Inv2 sc M s) (hc : canAdvance s = true) :
    advanceStep s = finish (curRound s) { s with acc := s.acc + gain (lookup2 s.msgs s.cur) } := by
  rw [advanceStep_eq, storeV_honest hM inv]
  simp [hc]

theorem finish_eq (r : Round2) (s1 : State2) (h0 : (s1.sc.finErrAt != 0 && s1.sc.finErrAt == s1.cur) = false)
    (ha : s1.accuse = false) :
    finish r s1 = match s1.sc.rounds[s1.idx + 1]? with
      | none => .halt (abort2 { s1 with ended := true, cur := 0, result := some s1.acc } none)
      | some nx => .more { s1 with out := s1.out ++ emit2 s1.sc r, idx := s1.idx + 1, cur := nx.num } := by
  rw [finish, if_neg (ne_true_of_eq_false h0), if_neg (ne_true_of_eq_false ha)]
  rfl

theorem Inv2.more {s s' : State2} (inv : Inv2 sc M s) (h : advanceStep s = .more s') : Inv2 sc M s' := by
  obtain ⟨a, nx, hn, rfl⟩ := advanceStep_more h
  refine ⟨inv.hsc, inv.ended, inv.err, inv.result, rfl, ?_, fun _ => ?_, inv.stored⟩
  · show nx.num = (s.sc.rounds.getD (s.idx + 1) default).num
    rw [List.getD, hn]; rfl
  · rw [← inv.hsc]; exact (List.getElem?_eq_some_iff.mp hn).1

theorem accept2_live {s : State2} (hM : Honest2 sc M) (inv : Inv2 sc M s) (m : Msg) (hm : m ∈ M) :
    accept2 s m = advance (s.sc.rounds.length + 1) (setMsgs s (put2 s.msgs m.rnd m)) := by
  have hh := hM.msgs m hm
  have h0 : (m.rnd == 0) = false := by
    have := hh.rndPos
    simp; omega
  unfold accept2
  simp [canAccept2_honest inv.hsc hh, inv.not_terminal, h0]
  rfl

theorem advanceStep_clean {s s' : State2} (hM : Honest2 sc M) (inv : Inv2 sc M s) (h : advanceStep s = .halt s') :
    s'.err = none ∨ s'.err = some .finalizeErr := by
  cases hc : canAdvance s with
  | false => rw [advanceStep_stuck s hc] at h; cases h; exact Or.inl inv.err
  | true =>
    rw [advanceStep_honest hM inv hc] at h
    cases h0 : (s.sc.finErrAt != 0 && s.sc.finErrAt == s.cur) with
    | true => rw [finish, if_pos h0] at h; cases h; exact Or.inr rfl
    | false =>
      rw [finish_eq _ { s with acc := s.acc + gain (lookup2 s.msgs s.cur) } h0 inv.accuse] at h
      split at h
      · cases h; exact Or.inl inv.err
      · cases h

theorem advance_clean (hM : Honest2 sc M) (f : Nat) (s : State2) (inv : Inv2 sc M s) :
    (advance f s).err = none ∨ (advance f s).err = some .finalizeErr :=
  advance_induct (P := Inv2 sc M) (fun _ inv => Or.inl inv.err) (fun _ _ inv e => advanceStep_clean hM inv e)
    (fun _ _ inv e => inv.more e) f s inv

theorem insert2 (hM : Honest2 sc M) (m : Msg) (hm : m ∈ M) (f : Nat) (s : State2) (inv : Inv2 sc M s)
    (hf : Enough f s) :
    Out2 (accept2 (advance f s) m) (advance f (setMsgs s (put2 s.msgs m.rnd m))) := by
  induction f generalizing s with
  | zero => exact absurd hf.2 (by omega)
  | succ f ih =>
    cases hc : canAdvance s with
    | false =>
      -- the handler waits: delivering `m` now is the run of `advance` with `m` in the store
      have e1 : advance (f + 1) s = s := by
        unfold advance; rw [advanceStep_stuck s hc]
      rw [e1, accept2_live hM inv m hm,
        advance_fuel (s.sc.rounds.length + 1) (f + 1) (setMsgs s (put2 s.msgs m.rnd m)) (enough_full _) hf]
      exact Out2.refl _
    | true =>
      -- the iteration does not see the difference: if `m` is for the current round, it is what the store has already
      have hl : lookup2 (put2 s.msgs m.rnd m) s.cur = lookup2 s.msgs s.cur := by
        rw [lookup2_put2]
        split
        · next e => exact (inv.has_cur hM hc m hm e.symm).symm
        · rfl
      unfold advance
      rw [advanceStep_setMsgs s _ hl]
      cases hs : advanceStep s with
      | halt s' =>
        rcases advanceStep_halt hs with ⟨-, h⟩ | h
        · rw [hc] at h; cases h
        · rw [accept2_terminal s' m h]
          exact Or.inr ⟨h, rfl⟩
      | more s' =>
        have := ih s' (inv.more hs) (hf.more hs)
        -- with the next state spelled out, its store is `s.msgs` by reduction
        obtain ⟨a, nx, -, rfl⟩ := advanceStep_more hs
        exact this

def preQ (l : List Msg) : List (Nat × Msg) := l.foldl (fun q m => put2 q m.rnd m) []

def preload2 (sc : Script2) (l : List Msg) : State2 := setMsgs (state0 sc) (preQ l)

/-- the handler has started: a leader does so in its constructor, a follower with its first delivery -/
def Started (sc : Script2) (l : List Msg) : Prop := sc.leader = true ∨ l ≠ []

/-- normal form of the delivery list `l`: all of `l` stored, then one run of `advance`; the initial state if nothing
    was delivered (for a leader that is the same thing) -/
def canon2 (sc : Script2) : List Msg → State2
  | [] => init2 sc
  | m :: l => advance (sc.rounds.length + 1) (preload2 sc (m :: l))

theorem canon2_started {l : List Msg} (h : Started sc l) :
    canon2 sc l = advance (sc.rounds.length + 1) (preload2 sc l) := by
  cases l with
  | nil =>
    show init2 sc = _
    rw [init2_eq, if_pos (h.resolve_right fun hn => hn rfl)]
    rfl
  | cons => rfl

theorem canon2_asleep {l : List Msg} (h : ¬ Started sc l) : l = [] ∧ canon2 sc l = state0 sc := by
  cases l with
  | nil =>
    refine ⟨rfl, ?_⟩
    show init2 sc = _
    rw [init2_eq, if_neg fun hlead => h (Or.inl hlead)]
  | cons => exact absurd (Or.inr (List.cons_ne_nil _ _)) h

theorem preQ_snoc (l : List Msg) (m : Msg) : preQ (l ++ [m]) = put2 (preQ l) m.rnd m := by
  simp [preQ, List.foldl_append]

theorem state0_inv (sc : Script2) (M : List Msg) : Inv2 sc M (state0 sc) :=
  ⟨rfl, rfl, rfl, rfl, rfl, rfl, fun h => List.length_pos_iff.mpr h, fun r x h => by simp [state0, lookup2] at h⟩

theorem lookup2_preQ (l : List Msg) (r : Nat) : lookup2 (preQ l) r = l.reverse.find? (·.rnd == r) := by
  induction l using snoc_induction with
  | nil => rfl
  | snoc l m ih =>
    rw [preQ_snoc, lookup2_put2, List.reverse_append, List.reverse_singleton, List.singleton_append, List.find?_cons, ih]
    by_cases h : r = m.rnd
    · simp [h]
    · have h' : (m.rnd == r) = false := by simpa using Ne.symm h
      simp [h, h']

theorem preQ_stored (l : List Msg) (r : Nat) (x : Msg) (h : lookup2 (preQ l) r = some x) : x ∈ l ∧ x.rnd = r := by
  rw [lookup2_preQ] at h
  exact ⟨List.mem_reverse.mp (List.mem_of_find?_eq_some h), by simpa using List.find?_some h⟩

theorem preload2_inv (l : List Msg) (hl : ∀ x ∈ l, x ∈ M) : Inv2 sc M (preload2 sc l) :=
  (state0_inv sc M).withStore (preQ l) fun r x h => let ⟨h1, h2⟩ := preQ_stored l r x h; ⟨hl x h1, h2⟩

theorem lookup2_preQ_iff (hM : Honest2 sc M) (l : List Msg) (hl : ∀ m ∈ l, m ∈ M) (r : Nat) (x : Msg) :
    lookup2 (preQ l) r = some x ↔ x ∈ l ∧ x.rnd = r := by
  refine ⟨preQ_stored l r x, fun ⟨hx, hr⟩ => ?_⟩
  cases hy : lookup2 (preQ l) r with
  | none =>
    rw [lookup2_preQ, List.find?_eq_none] at hy
    exact absurd (by simpa using hr) (hy x (List.mem_reverse.mpr hx))
  | some y =>
    obtain ⟨hyl, hyr⟩ := preQ_stored l r y hy
    rw [hM.uniq y (hl y hyl) x (hl x hx) (hyr.trans hr.symm)]

theorem canon2_sim (hM : Honest2 sc M) (l1 l2 : List Msg) (h1 : ∀ m ∈ l1, m ∈ M) (hsame : ∀ m, m ∈ l1 ↔ m ∈ l2) :
    Sim2 (canon2 sc l1) (canon2 sc l2) := by
  have h2 : ∀ m ∈ l2, m ∈ M := fun m hm => h1 m ((hsame m).mpr hm)
  have hq : ∀ r, lookup2 (preQ l1) r = lookup2 (preQ l2) r := fun r => Option.ext fun x => by
    rw [lookup2_preQ_iff hM l1 h1, lookup2_preQ_iff hM l2 h2, hsame]
  have hnil : l1 = [] ↔ l2 = [] := by
    simp only [List.eq_nil_iff_forall_not_mem]
    exact ⟨fun h m hm => h m ((hsame m).mpr hm), fun h m hm => h m ((hsame m).mp hm)⟩
  by_cases hs : Started sc l1
  · rw [canon2_started hs, canon2_started (hs.imp id fun hne h => hne (hnil.mpr h))]
    exact advance_sim _ ⟨rfl, hq⟩
  · obtain ⟨rfl, -⟩ := canon2_asleep hs
    rw [hnil.mp rfl]
    exact Sim2.refl _

theorem canon2_snoc (hM : Honest2 sc M) (l : List Msg) (m : Msg) (hl : ∀ x ∈ l, x ∈ M) (hm : m ∈ M) :
    Out2 (accept2 (canon2 sc l) m) (canon2 sc (l ++ [m])) := by
  have e : canon2 sc (l ++ [m]) =
      advance (sc.rounds.length + 1) (setMsgs (preload2 sc l) (put2 (preload2 sc l).msgs m.rnd m)) := by
    rw [canon2_started (Or.inr (by simp)), preload2, preQ_snoc]
    rfl
  rw [e]
  by_cases hs : Started sc l
  · rw [canon2_started hs]
    exact insert2 hM m hm _ _ (preload2_inv l hl) (enough_full (preload2 sc l))
  · obtain ⟨rfl, e0⟩ := canon2_asleep hs
    rw [e0, accept2_live hM (state0_inv sc M) m hm]
    exact Out2.refl _

theorem run2_canon (hM : Honest2 sc M) (l : List Msg) (hl : ∀ m ∈ l, m ∈ M) :
    Out2 (run2 sc (l.map Call2.accept)) (canon2 sc l) := by
  rw [run2, List.foldl_map]
  exact foldl_canon (R := Out2) (acc := accept2) (c := canon2 sc) (P := (· ∈ M)) Out2.trans
    (fun m h => accept2_out h m) (Out2.refl _) (canon2_snoc hM) l hl

theorem run2_out (hM : Honest2 sc M) (l1 l2 : List Msg) (h1 : ∀ m ∈ l1, m ∈ M) (hsame : ∀ m, m ∈ l1 ↔ m ∈ l2) :
    Out2 (run2 sc (l1.map Call2.accept)) (run2 sc (l2.map Call2.accept)) :=
  ((run2_canon hM l1 h1).trans (Or.inl (canon2_sim hM l1 l2 h1 hsame))).trans
    (run2_canon hM l2 fun m hm => h1 m ((hsame m).mpr hm)).symm

theorem run2_sim (hM : Honest2 sc M) (l1 l2 : List Msg) (h1 : ∀ m ∈ l1, m ∈ M) (hsame : ∀ m, m ∈ l1 ↔ m ∈ l2)
    (hrun : terminal2 (run2 sc (l1.map Call2.accept)) = false) :
    Sim2 (run2 sc (l1.map Call2.accept)) (run2 sc (l2.map Call2.accept)) := by
  rcases run2_out hM l1 l2 h1 hsame with h | ⟨ht, -⟩
  · exact h
  · rw [hrun] at ht; cases ht

theorem run2_clean (hM : Honest2 sc M) (l : List Msg) (hl : ∀ m ∈ l, m ∈ M) :
    (run2 sc (l.map Call2.accept)).err = none ∨ (run2 sc (l.map Call2.accept)).err = some .finalizeErr := by
  rw [(run2_canon hM l hl).feq.err]
  by_cases hs : Started sc l
  · rw [canon2_started hs]
    exact advance_clean hM _ _ (preload2_inv l hl)
  · rw [(canon2_asleep hs).2]
    exact Or.inl rfl

end Mps.TwoParty
