import Batteries.Data.List.Basic
/-
  `List.Forall₂ R xs ys` with `R x y := enc x = some y` is the specification of the list encoders of the
  model (`encodeHVs`, `encodeList`: all elements accepted, the items in order; `eq_some_iff_forall₂`). Length,
  validity of the items and injectivity of the list encoder are then facts about `Forall₂` relative to a validity
  predicate `P` on the encoded side.
-/
namespace Mps
variable {α β : Type} {R : α → β → Prop} {P : α → Prop} {Q : β → Prop}

theorem eq_some_iff_forall₂ {enc : α → Option β} {encs : List α → Option (List β)} (h0 : encs [] = some [])
    (h1 : ∀ x xs, encs (x :: xs) = (enc x).bind fun y => (encs xs).map (y :: ·))
    (xs : List α) (ys : List β) : encs xs = some ys ↔ List.Forall₂ (fun x y => enc x = some y) xs ys := by
  constructor
  · intro h
    induction xs generalizing ys with
    | nil => cases h0.symm.trans h; exact .nil
    | cons x xs ih =>
      rw [h1] at h
      obtain ⟨y, hy, h⟩ := Option.bind_eq_some_iff.1 h
      obtain ⟨ys', hys, rfl⟩ := Option.map_eq_some_iff.1 h
      exact .cons hy (ih _ hys)
  · intro h
    induction h with
    | nil => exact h0
    | cons hx _ ih => rw [h1, hx, ih]; rfl

theorem forall₂_length {xs : List α} {ys : List β} (h : List.Forall₂ R xs ys) : xs.length = ys.length := by
  induction h with
  | nil => rfl
  | cons _ _ ih => rw [List.length_cons, List.length_cons, ih]

theorem forall₂_right {xs : List α} {ys : List β} (h : List.Forall₂ R xs ys) (hP : ∀ x ∈ xs, P x)
    (hQ : ∀ x, P x → ∀ y, R x y → Q y) : ∀ y ∈ ys, Q y := by
  induction h with
  | nil => simp
  | cons hr _ ih =>
    simp only [List.mem_cons, forall_eq_or_imp] at hP ⊢
    exact ⟨hQ _ hP.1 _ hr, ih hP.2⟩

theorem forall₂_inj {xs xs' : List α} {ys : List β} (h : List.Forall₂ R xs ys) (h' : List.Forall₂ R xs' ys)
    (hP : ∀ x ∈ xs, P x) (hP' : ∀ x ∈ xs', P x)
    (hR : ∀ x x', P x → P x' → ∀ y, R x y → R x' y → x = x') : xs = xs' := by
  induction h generalizing xs' with
  | nil => cases h'; rfl
  | cons hr _ ih =>
    cases h' with
    | cons hr' ht' =>
      simp only [List.mem_cons, forall_eq_or_imp] at hP hP'
      rw [hR _ _ hP.1 hP'.1 _ hr hr', ih ht' hP.2 hP'.2]

end Mps
