import MpsProofs.Blame
import MpsProofs.Echo
/-
  One handler that is only given honest messages. `Honest H sc M`: `M` is a set of messages that honest peers send to
  this party in one session (decidable). A running handler that was only given messages of such a set satisfies `HInv`:
  besides its own broadcasts the queues hold messages of `M` only, and the echo-hash table holds the session's hashes
  `expBh`. Under it the model has closed forms: the verification of a message credits its value (`verify_honest`,
  `delta`), the replay of the queue on entering a round credits `rsum`, `Accept` queues the message or verifies it and
  runs `finalize` (`accept_honest`), and `finalize` passes through the rounds whose messages are all there
  (`finalize_honest`; `finalize_honest_induct` is the induction along it). Core-only.
-/
namespace Mps.Handler

def specOf (sc : Script) (r : Nat) : Option RoundSpec := sc.rounds.find? (fun sp => sp.num == r)

/-- a script as the library's protocols define them -/
structure ScriptOk (sc : Script) : Prop where
  ids_nodup : sc.ids.Nodup
  first : (sc.rounds[0]?).map (·.num) = some 1
  incr : sc.rounds.Pairwise (fun a b => a.num < b.num)

instance (sc : Script) : Decidable (ScriptOk sc) :=
  decidable_of_iff (sc.ids.Nodup ∧ (sc.rounds[0]?).map (·.num) = some 1 ∧ sc.rounds.Pairwise (fun a b => a.num < b.num))
    ⟨fun h => ⟨h.1, h.2.1, h.2.2⟩, fun h => ⟨h.1, h.2, h.3⟩⟩

/-- this party's own broadcast for round `r` as `emitFor` builds it -/
def ownB (sc : Script) (r : Nat) (bv : Option Bytes) : Msg :=
  { ssid := some sc.ssid, frm := sc.self, to := [], proto := sc.proto, rnd := r,
    data := some (cborContent ⟨honestV sc sc.self [] r, 0⟩), bcast := true, bv := bv,
    dec := some ⟨honestV sc sc.self [] r, 0⟩ }

def bcOf (M : List Msg) : List (Nat × Bytes × Msg) := (M.filter (·.bcast)).map fun m => (m.rnd, m.frm, m)

/-- the echo hash of round `r` that every honest party computes in the session of `M`: over this party's own
    broadcast and the peers' broadcasts of round `r` -/
def expBh (H : Bytes → Bytes) (sc : Script) (M : List Msg) : Nat → Option Bytes
  | 0 => none
  | r + 1 =>
    match specOf sc (r + 1) with
    | some sp =>
      if sp.recvB && hasSlot sc (r + 1) then
        echoHash H sc ((r + 1, sc.self, ownB sc (r + 1) (expBh H sc M r)) :: bcOf M) (r + 1)
      else none
    | none => none

structure HonestMsg (H : Bytes → Bytes) (sc : Script) (M : List Msg) (m : Msg) : Prop where
  notSelf : m.frm ≠ sc.self
  toMe : m.to = [] ∨ m.to = sc.self
  proto : m.proto = sc.proto
  ssid : m.ssid.getD [] = sc.ssid
  known : m.frm ∈ sc.ids
  data : m.data.isSome = true
  slot : hasSlot sc m.rnd = true
  kind : (specOf sc m.rnd).map (fun sp => if m.bcast then sp.recvB else sp.recvP) = some true
  content : m.dec.map (·.f) = some 0
  echo : ∀ h ∈ expBh H sc M (m.rnd - 1), m.bv.getD [] = h

instance (H : Bytes → Bytes) (sc : Script) (M : List Msg) (m : Msg) : Decidable (HonestMsg H sc M m) :=
  decidable_of_iff (m.frm ≠ sc.self ∧ (m.to = [] ∨ m.to = sc.self) ∧ m.proto = sc.proto ∧ m.ssid.getD [] = sc.ssid ∧
      m.frm ∈ sc.ids ∧ m.data.isSome = true ∧ hasSlot sc m.rnd = true ∧
      (specOf sc m.rnd).map (fun sp => if m.bcast then sp.recvB else sp.recvP) = some true ∧
      m.dec.map (·.f) = some 0 ∧ ∀ h ∈ expBh H sc M (m.rnd - 1), m.bv.getD [] = h)
    ⟨fun h => ⟨h.1, h.2.1, h.2.2.1, h.2.2.2.1, h.2.2.2.2.1, h.2.2.2.2.2.1, h.2.2.2.2.2.2.1, h.2.2.2.2.2.2.2.1,
        h.2.2.2.2.2.2.2.2.1, h.2.2.2.2.2.2.2.2.2⟩,
     fun h => ⟨h.1, h.2, h.3, h.4, h.5, h.6, h.7, h.8, h.9, h.10⟩⟩

structure Honest (H : Bytes → Bytes) (sc : Script) (M : List Msg) : Prop where
  script : ScriptOk sc
  msgs : ∀ m ∈ M, HonestMsg H sc M m
  uniq : ∀ m ∈ M, ∀ m' ∈ M, m.rnd = m'.rnd → m.frm = m'.frm → m.bcast = m'.bcast → m = m'

instance (H : Bytes → Bytes) (sc : Script) (M : List Msg) : Decidable (Honest H sc M) :=
  decidable_of_iff (ScriptOk sc ∧ (∀ m ∈ M, HonestMsg H sc M m) ∧
      ∀ m ∈ M, ∀ m' ∈ M, m.rnd = m'.rnd → m.frm = m'.frm → m.bcast = m'.bcast → m = m')
    ⟨fun h => ⟨h.1, h.2.1, h.2.2⟩, fun h => ⟨h.1, h.2, h.3⟩⟩

theorem specOf_num (sc : Script) (r : Nat) (sp : RoundSpec) (h : specOf sc r = some sp) : sp.num = r := by
  unfold specOf at h
  have := List.find?_some h
  simpa using this

theorem specOf_getElem (sc : Script) (r : Nat) (sp : RoundSpec) (h : specOf sc r = some sp) :
    ∃ i : Nat, sc.rounds[i]? = some sp := by
  unfold specOf at h
  exact List.getElem?_of_mem (List.mem_of_find?_eq_some h)

theorem ScriptOk.num_lt {sc : Script} (ok : ScriptOk sc) {i j : Nat} {a b : RoundSpec} (ha : sc.rounds[i]? = some a)
    (hb : sc.rounds[j]? = some b) (h : i < j) : a.num < b.num := by
  obtain ⟨hi, ea⟩ := List.getElem?_eq_some_iff.mp ha
  obtain ⟨hj, eb⟩ := List.getElem?_eq_some_iff.mp hb
  have := List.pairwise_iff_getElem.mp ok.incr i j hi hj h
  rwa [ea, eb] at this

theorem specOf_of_getElem (sc : Script) (ok : ScriptOk sc) (i : Nat) (sp : RoundSpec) (h : sc.rounds[i]? = some sp) :
    specOf sc sp.num = some sp := by
  obtain ⟨hi, e⟩ := List.getElem?_eq_some_iff.mp h
  refine List.find?_eq_some_iff_getElem.mpr ⟨beq_self_eq_true _, i, hi, e, fun j hj => ?_⟩
  have := ok.num_lt (List.getElem?_eq_getElem (Nat.lt_trans hj hi)) h hj
  simp
  omega

theorem idx_lt_of_num_lt (sc : Script) (ok : ScriptOk sc) (i j : Nat) (a b : RoundSpec)
    (ha : sc.rounds[i]? = some a) (hb : sc.rounds[j]? = some b) (h : a.num < b.num) : i < j := by
  rcases Nat.lt_trichotomy i j with g | g | g
  · exact g
  · subst g; rw [ha] at hb; cases hb; omega
  · have := ok.num_lt hb ha g; omega

theorem ScriptOk.no_gap {sc : Script} (ok : ScriptOk sc) {i r : Nat} {a b sp : RoundSpec} (ha : sc.rounds[i]? = some a)
    (hb : sc.rounds[i + 1]? = some b) (hs : specOf sc r = some sp) (h : a.num < r) : b.num ≤ r := by
  obtain ⟨j, hj⟩ := specOf_getElem sc r sp hs
  have hnum := specOf_num sc r sp hs
  have a1 := idx_lt_of_num_lt sc ok i j a sp ha hj (by omega)
  rcases Nat.lt_or_ge r b.num with g | g
  · have a2 := idx_lt_of_num_lt sc ok j (i + 1) sp b hj hb (by omega)
    omega
  · exact g

theorem ScriptOk.between {sc : Script} (ok : ScriptOk sc) {i j : Nat} {a b sp : RoundSpec} (ha : sc.rounds[i]? = some a)
    (hb : sc.rounds[i + 1]? = some b) (hs : sc.rounds[j]? = some sp) (h1 : a.num ≤ sp.num) (h2 : sp.num < b.num) :
    j = i := by
  have := idx_lt_of_num_lt sc ok j (i + 1) sp b hs hb h2
  rcases Nat.lt_or_ge j i with g | g
  · have := ok.num_lt hs ha g; omega
  · omega

theorem ScriptOk.nums_nodup {sc : Script} (ok : ScriptOk sc) : (sc.rounds.map (·.num)).Nodup := by
  rw [List.Nodup, List.pairwise_map]
  exact ok.incr.imp (fun h => by omega)

theorem expBh_guard {H : Bytes → Bytes} {sc : Script} {M : List Msg} {r : Nat} {x : Bytes} (h : expBh H sc M r = some x) :
    ∃ sp, specOf sc r = some sp ∧ (sp.recvB && hasSlot sc r) = true := by
  cases r with
  | zero => cases h
  | succ k =>
    unfold expBh at h
    split at h
    · next sp hsp =>
      split at h
      · next hc => exact ⟨sp, hsp, hc⟩
      · cases h
    · cases h

def addAcc (s : State) (v : Nat) : State := { s with acc := s.acc + v }

def val (m : Msg) : Nat := (m.dec.map (·.v)).getD 0

theorem addAcc_zero (s : State) : addAcc s 0 = s := by cases s; simp [addAcc]
theorem addAcc_add (s : State) (a b : Nat) : addAcc (addAcc s a) b = addAcc s (a + b) := by
  simp [addAcc, Nat.add_assoc]
theorem addAcc_sameCore (s : State) (v : Nat) : SameCore s (addAcc s v) := sameCore_iff.mpr rfl

theorem hasFlag_zero (b : Nat) : hasFlag 0 b = false := by simp [hasFlag]

theorem roundStore_honest {ok : Content → Bool} (hok : ∀ c : Content, c.f = 0 → ok c = true) (s : State) (m : Msg)
    (h : m.dec.map (·.f) = some 0) : (m.dec.filter ok).map (storeContent s m) = some (addAcc s (val m)) := by
  obtain ⟨c, hd, hf⟩ := Option.map_eq_some_iff.mp h
  simp [hd, Option.filter, hok c hf, storeContent, val, addAcc, hf, hasFlag_zero]

theorem roundStoreP2P_honest (s : State) (m : Msg) (h : m.dec.map (·.f) = some 0) :
    roundStoreP2P s m = some (addAcc s (val m)) := by
  rw [roundStoreP2P_eq]; exact roundStore_honest (fun c hc => by simp [hc, hasFlag_zero]) s m h

theorem roundStoreBcast_honest (s : State) (m : Msg) (h : m.dec.map (·.f) = some 0) :
    roundStoreBcast s m = some (addAcc s (val m)) := by
  rw [roundStoreBcast_eq]; exact roundStore_honest (fun c hc => by simp [hc, hasFlag_zero]) s m h

structure HInv (H : Bytes → Bytes) (sc : Script) (M : List Msg) (s : State) : Prop where
  scEq : s.sc = sc
  live : Live s
  keys : QueueKeys s
  idx : ∃ spec, sc.rounds[s.idx]? = some spec ∧ spec.num = s.cur
  accused : s.accused = []
  reached : ∀ r ∈ s.reached, 0 < r ∧ r ≤ s.cur
  curIn : s.cur ∈ s.reached
  msgs : ∀ e ∈ s.msgs, e.2.2 ∈ M
  bc : ∀ e ∈ s.bc, e.2.2 ∈ M ∨ e.2.2 = ownB sc e.1 (expBh H sc M (e.1 - 1))
  bh : ∀ r h, bhLookup s.bh r = some h → expBh H sc M r = some h

section
variable {H : Bytes → Bytes} {sc : Script} {M : List Msg}

theorem HInv.curSpec_eq {s : State} (inv : HInv H sc M s) :
    sc.rounds[s.idx]? = some (curSpec s) ∧ (curSpec s).num = s.cur := by
  obtain ⟨spec, h1, h2⟩ := inv.idx
  rw [curSpec_of_getElem? (inv.scEq ▸ h1)]; exact ⟨h1, h2⟩

theorem HInv.specOf_cur {s : State} (hM : Honest H sc M) (inv : HInv H sc M s) : specOf sc s.cur = some (curSpec s) := by
  have := specOf_of_getElem sc hM.script s.idx (curSpec s) inv.curSpec_eq.1
  rw [inv.curSpec_eq.2] at this
  exact this

theorem HInv.idx_lt {s : State} (inv : HInv H sc M s) : s.idx < sc.rounds.length := by
  obtain ⟨spec, h1, _⟩ := inv.idx
  exact (List.getElem?_eq_some_iff.mp h1).1

theorem HInv.cur_pos {s : State} (inv : HInv H sc M s) : 0 < s.cur := (inv.reached s.cur inv.curIn).1

theorem HInv.not_reached {s : State} (inv : HInv H sc M s) {r : Nat} (h : r = 0 ∨ s.cur < r) :
    s.reached.contains r = false := by
  cases hc : s.reached.contains r with
  | false => rfl
  | true =>
    have := inv.reached r (by simpa using hc)
    omega

theorem ScriptOk.state0 (ok : ScriptOk sc) :
    (state0 sc).cur = 1 ∧ (state0 sc).reached = [1] ∧ ∃ r1, sc.rounds[0]? = some r1 ∧ r1.num = 1 := by
  have hfirst := ok.first
  cases h0 : sc.rounds[0]? with
  | none => rw [h0] at hfirst; cases hfirst
  | some r1 =>
    rw [h0] at hfirst
    simp only [Option.map_some, Option.some.injEq] at hfirst
    have hg : sc.rounds.getD 0 default = r1 := by simp [List.getD, h0]
    exact ⟨by simp only [Handler.state0, hg, hfirst], by simp only [Handler.state0, hg, hfirst], r1, rfl, hfirst⟩

theorem state0_hinv (hM : Honest H sc M) : HInv H sc M (state0 sc) := by
  obtain ⟨hc, hre, r1, h0, hfirst⟩ := hM.script.state0
  exact {
    scEq := rfl
    live := ⟨rfl, rfl, rfl⟩
    keys := ⟨fun e he => (nomatch he), fun e he => (nomatch he)⟩
    idx := ⟨r1, h0, by rw [hc, hfirst]⟩
    accused := rfl
    reached := fun r hr => by
      rw [hre, List.mem_singleton] at hr
      rw [hc]; omega
    curIn := by rw [hc, hre]; simp
    msgs := fun e he => nomatch he
    bc := fun e he => nomatch he
    bh := fun r h hr => by simp [bhLookup, Handler.state0] at hr }

theorem HInv.store_or_own {s : State} (inv : HInv H sc M s) (m : Msg)
    (hm : m ∈ M ∨ (m.bcast = true ∧ m = ownB sc m.rnd (expBh H sc M (m.rnd - 1)))) : HInv H sc M (store s m) where
  scEq := (store_sc s m).trans inv.scEq
  live := inv.live.of_sameLife (store_sameLife s m)
  keys := store_queueKeys s m inv.keys
  idx := by rw [(store_idx s m).1, (store_idx s m).2]; exact inv.idx
  accused := by rw [store_with]; exact inv.accused
  reached := by rw [store_reached, (store_idx s m).2]; exact inv.reached
  curIn := by rw [store_reached, (store_idx s m).2]; exact inv.curIn
  msgs := fun e he => by
    rcases (mem_store_msgs s m e).mp he with he | ⟨_, hb, _, rfl⟩
    · exact inv.msgs e he
    · exact hm.resolve_right fun h => by rw [h.1] at hb; cases hb
  bc := fun e he => by
    rcases (mem_store_bc s m e).mp he with he | ⟨_, _, _, rfl⟩
    · exact inv.bc e he
    · exact hm.imp id (·.2)
  bh := by rw [store_bh]; exact inv.bh

theorem HInv.store {s : State} (inv : HInv H sc M s) (m : Msg) (hm : m ∈ M) : HInv H sc M (store s m) :=
  inv.store_or_own m (Or.inl hm)

theorem HInv.addAcc {s : State} (inv : HInv H sc M s) (v : Nat) : HInv H sc M (addAcc s v) := { inv with }

theorem HInv.sameView {s : State} (inv : HInv H sc M s) (m : Msg) (hm : HonestMsg H sc M m) :
    sameView s m = true := by
  unfold Handler.sameView
  cases hb : bhLookup s.bh (m.rnd - 1) with
  | none => rfl
  | some prev =>
    simp only [beq_iff_eq]
    exact hm.echo prev (inv.bh _ _ hb)

theorem HInv.recv {s : State} (hM : Honest H sc M) (inv : HInv H sc M s) {m : Msg} (hm : m ∈ M) (hr : m.rnd = s.cur) :
    (if m.bcast then (curSpec s).recvB else (curSpec s).recvP) = true := by
  have := (hM.msgs m hm).kind
  rw [hr, inv.specOf_cur hM] at this
  simpa using this

/-- the handler's own broadcasts are queued too: hence `hid` -/
theorem HInv.stored {s : State} (inv : HInv H sc M s) (b : Bool) {r : Nat} {id : Bytes} {x : Msg}
    (hl : lookup (qOf b s) r id = some x) (hid : b = true → id ≠ sc.self) :
    x ∈ M ∧ x.rnd = r ∧ x.frm = id ∧ x.bcast = b := by
  obtain ⟨hs, hr, hf, hb⟩ := inv.keys.of_lookup b hl
  refine ⟨?_, hr, hf, hb⟩
  rcases hs with ⟨e, he, rfl⟩ | ⟨e, he, rfl⟩
  · exact inv.msgs e he
  · exact (inv.bc e he).resolve_right fun h => hid (hb.symm.trans (inv.keys.2 e he).2.2) (by rw [← hf, h]; rfl)

theorem verifyMessage_honest {s : State} (hM : Honest H sc M) (inv : HInv H sc M s) (m : Msg) (hm : m ∈ M)
    (hr : m.rnd = s.cur) (hb : m.bcast = false) :
    verifyMessage s m =
      .ok (if (curSpec s).recvB && (lookup s.bc m.rnd m.frm).isNone then s else addAcc s (val m)) := by
  have hh := hM.msgs m hm
  have h1 : s.reached.contains m.rnd = true := by rw [hr]; simpa using inv.curIn
  have h2 := inv.sameView m hh
  have h3 : (curSpec s).recvP = true := by simpa [hb] using inv.recv hM hm hr
  unfold verifyMessage
  simp only [h1, h2, h3, Bool.not_true, Bool.false_eq_true, if_false, roundStoreP2P_honest s m hh.content]
  split <;> rfl

theorem verifyBroadcastMessage_honest {s : State} (hM : Honest H sc M) (inv : HInv H sc M s) (m : Msg) (hm : m ∈ M)
    (hr : m.rnd = s.cur) (hb : m.bcast = true) (hst : lookup s.bc m.rnd m.frm = some m) :
    verifyBroadcastMessage s m =
      .ok (addAcc s (val m + (if (curSpec s).recvP then
          (match lookup s.msgs m.rnd m.frm with | some p => val p | none => 0) else 0))) := by
  have hh := hM.msgs m hm
  have h1 : s.reached.contains m.rnd = true := by rw [hr]; simpa using inv.curIn
  have h2 := inv.sameView m hh
  have h3 : (curSpec s).recvB = true := by simpa [hb] using inv.recv hM hm hr
  unfold verifyBroadcastMessage
  simp only [h1, h2, h3, Bool.not_true, Bool.false_eq_true, if_false, roundStoreBcast_honest s m hh.content]
  have hcs : curSpec (addAcc s (val m)) = curSpec s := rfl
  have hms : (addAcc s (val m)).msgs = s.msgs := rfl
  rw [hcs, hms]
  cases hp : (curSpec s).recvP with
  | false => simp
  | true =>
    simp only [Bool.not_true, Bool.false_eq_true, if_false, if_true]
    cases hl : lookup s.msgs m.rnd m.frm with
    | none => simp
    | some p =>
      obtain ⟨hp1, hp2, hp3, hp4⟩ := inv.stored false hl nofun
      simp only
      rw [verifyMessage_honest hM (inv.addAcc (val m)) p hp1 (hp2.trans hr) hp4, hp2, hp3]
      show VRes.ok (if (curSpec s).recvB && (lookup s.bc m.rnd m.frm).isNone then _ else _) = _
      simp [hst, addAcc_add]

/-- what the replay of the queue credits for sender `id` -/
def contrib (s : State) (id : Bytes) : Nat :=
  if (curSpec s).recvB then
    if id == s.sc.self then 0 else
    match lookup s.bc s.cur id with
    | none => 0
    | some b => val b + (if (curSpec s).recvP then
        (match lookup s.msgs s.cur id with | some p => val p | none => 0) else 0)
  else
    match lookup s.msgs s.cur id with
    | none => 0
    | some p => val p

def rsum (s : State) : Nat := (s.sc.ids.map (contrib s)).sum

theorem replayStep_honest {s : State} (hM : Honest H sc M) (inv : HInv H sc M s) (id : Bytes) :
    replayStep (curSpec s) s.cur (s, none) id = (addAcc s (contrib s id), none) := by
  simp only [replayStep, contrib]
  cases hB : (curSpec s).recvB with
  | true =>
    simp only [if_true]
    by_cases hid : (id == s.sc.self) = true
    · simp only [hid, if_true, addAcc_zero]
    · simp only [hid, Bool.false_eq_true, if_false]
      cases hl : lookup s.bc s.cur id with
      | none => simp only [addAcc_zero]
      | some b =>
        simp only
        have hid' : id ≠ sc.self := by rw [← inv.scEq]; simpa using hid
        obtain ⟨hb1, hb2, hb3, hb4⟩ := inv.stored true hl fun _ => hid'
        have hv := verifyBroadcastMessage_honest hM inv b hb1 hb2 hb4 (by rw [hb2, hb3]; exact hl)
        rw [hv, hb2, hb3]
        rfl
  | false =>
    simp only [Bool.false_eq_true, if_false]
    cases hl : lookup s.msgs s.cur id with
    | none => simp only [addAcc_zero]
    | some p =>
      simp only
      obtain ⟨hp1, hp2, hp3, hp4⟩ := inv.stored false hl nofun
      have hv := verifyMessage_honest hM inv p hp1 hp2 hp4
      rw [hv, hB]
      rfl

theorem contrib_addAcc (s : State) (v : Nat) : contrib (addAcc s v) = contrib s := rfl

theorem replayFold_honest {s : State} (hM : Honest H sc M) (inv : HInv H sc M s) (ids : List Bytes) (x : Nat) :
    ids.foldl (replayStep (curSpec s) s.cur) (addAcc s x, none) = (addAcc s (x + (ids.map (contrib s)).sum), none) := by
  induction ids generalizing x with
  | nil => simp
  | cons id ids ih =>
    rw [List.foldl_cons]
    have := replayStep_honest hM (inv.addAcc x) id
    have e1 : curSpec (addAcc s x) = curSpec s := rfl
    have e2 : (addAcc s x).cur = s.cur := rfl
    rw [e1, e2] at this
    rw [this, contrib_addAcc, addAcc_add, ih]
    simp [Nat.add_assoc]

theorem replayQueued_honest {s : State} (hM : Honest H sc M) (inv : HInv H sc M s) :
    replayQueued s = (addAcc s (rsum s), none) := by
  unfold replayQueued rsum
  have := replayFold_honest hM inv s.sc.ids 0
  rw [addAcc_zero] at this
  rw [this]
  simp

theorem mem_bcOf (S : List Msg) (e : Nat × Bytes × Msg) :
    e ∈ bcOf S ↔ ∃ m ∈ S, m.bcast = true ∧ e = (m.rnd, m.frm, m) := by
  unfold bcOf
  simp only [List.mem_map, List.mem_filter]
  constructor
  · rintro ⟨m, ⟨h1, h2⟩, rfl⟩; exact ⟨m, h1, h2, rfl⟩
  · rintro ⟨m, h1, h2, rfl⟩; exact ⟨m, ⟨h1, h2⟩, rfl⟩

theorem lookup_bcOf {M : List Msg}
    (uniq : ∀ m ∈ M, ∀ m' ∈ M, m.rnd = m'.rnd → m.frm = m'.frm → m.bcast = m'.bcast → m = m') (x : Msg) (hx : x ∈ M)
    (hb : x.bcast = true) : lookup (bcOf M) x.rnd x.frm = some x := by
  refine lookup_of_mem (bcOf M) (fun e he e' he' k1 k2 => ?_) (x.rnd, x.frm, x) ((mem_bcOf M _).mpr ⟨x, hx, hb, rfl⟩)
  obtain ⟨y, hy, hyb, rfl⟩ := (mem_bcOf M e).mp he
  obtain ⟨y', hy', hyb', rfl⟩ := (mem_bcOf M e').mp he'
  rw [uniq y hy y' hy' k1 k2 (hyb.trans hyb'.symm)]

theorem HInv.expBh_of_echo {s : State} (hM : Honest H sc M) (inv : HInv H sc M s)
    (hc : ((curSpec s).recvB && hasSlot sc s.cur) = true) (h : Bytes) (he : echoHash H sc s.bc s.cur = some h) :
    expBh H sc M s.cur = some h := by
  have hpos := inv.cur_pos
  obtain ⟨k, hk⟩ : ∃ k, s.cur = k + 1 := ⟨s.cur - 1, by omega⟩
  have hspec := inv.specOf_cur hM
  rw [hk] at hspec hc he ⊢
  unfold expBh
  simp only [hspec, hc, if_true]
  refine (echoHash_ext H sc _ s.bc (k + 1) fun id hid => ?_).trans he
  have hsome := (echoHash_some H sc s.bc (k + 1) h he).1 id hid
  obtain ⟨x, hx⟩ := Option.isSome_iff_exists.mp hsome
  rw [hx]
  by_cases hself : id = sc.self
  · subst hself
    obtain ⟨e, hem, rfl, hk1, hk2⟩ := lookup_keys _ _ _ _ hx
    have kk := inv.keys.2 e hem
    rcases inv.bc e hem with hm | hm
    · exact absurd (by rw [← kk.2.1, hk2]) (hM.msgs _ hm).notSelf
    · rw [hm, hk1]
      exact lookup_cons_eq _ _ _ _
  · rw [lookup_cons_ne _ _ _ _ (by simp only [not_and]; intro _ h2; exact hself h2.symm)]
    obtain ⟨hb1, hb2, hb3, hb4⟩ := inv.stored true hx fun _ => hself
    rw [← hb2, ← hb3]
    exact lookup_bcOf hM.uniq x hb1 hb4

theorem HInv.fill {s : State} (hM : Honest H sc M) (inv : HInv H sc M s) : HInv H sc M (fillBh H s) := by
  rw [fillBh_eq]
  refine { inv with bh := ?_ }
  intro r x hr
  rw [show bhLookup _ r = bhLookup (fillBh H s).bh r from rfl, bhLookup_fillBh] at hr
  cases hb : bhLookup s.bh r with
  | some y => rw [hb, Option.some_or] at hr; exact inv.bh r x (hb.trans hr)
  | none =>
    rw [hb, Option.none_or] at hr
    split at hr
    · next hc =>
      simp only [Bool.and_eq_true, beq_iff_eq] at hc
      rw [← hc.2, inv.scEq] at *
      exact inv.expBh_of_echo hM (Bool.and_eq_true_iff.mpr hc.1) x hr
    · cases hr

theorem HInv.check {s : State} (hM : Honest H sc M) (inv : HInv H sc M s) : checkBroadcastHash s = true := by
  refine (checkBroadcastHash_iff s).mpr fun prev hb => ?_
  have hexp := inv.bh _ _ hb
  -- what can be queued for the current round carries the session's hash of the round before
  have stamp : ∀ x : Msg, x.rnd = s.cur → x ∈ M ∨ x = ownB sc x.rnd (expBh H sc M (x.rnd - 1)) →
      x.bv.getD [] = prev := by
    intro x hr hx
    rcases hx with hx | hx
    · exact (hM.msgs x hx).echo prev (hr ▸ hexp)
    · rw [hx, hr]
      show (expBh H sc M (s.cur - 1)).getD [] = prev
      rw [hexp]; rfl
  exact ⟨fun e he hr => stamp _ ((inv.keys.1 e he).1 ▸ hr) (Or.inl (inv.msgs e he)),
    fun e he hr => stamp _ ((inv.keys.2 e he).1 ▸ hr) ((inv.keys.2 e he).1 ▸ inv.bc e he)⟩

theorem foldStore_nobcast (l : List Msg) (s : State) (h : ∀ m ∈ l, m.bcast = false) :
    l.foldl (fun st m => if m.bcast then store st m else st) s = s :=
  List.foldlRecOn l _ (motive := (· = s)) rfl fun t ht m hm => by
    rw [h m hm, ht]
    rfl

theorem foldStore_emit (s t : State) (nx : RoundSpec) :
    (emitFor s nx).foldl (fun st m => if m.bcast then store st m else st) t =
      if nx.recvB then store t (ownB s.sc nx.num (bhLookup s.bh (nx.num - 1))) else t := by
  unfold emitFor
  simp only
  rw [List.foldl_append, foldStore_nobcast]
  · cases nx.recvB <;> rfl
  · intro m hm
    split at hm
    · obtain ⟨id, _, rfl⟩ := List.mem_map.mp hm
      rfl
    · cases hm

theorem sendAll_eq (s : State) (nx : RoundSpec) :
    sendAll s (emitFor s nx) =
      { (if nx.recvB then store s (ownB s.sc nx.num (bhLookup s.bh (nx.num - 1))) else s) with
        out := (if nx.recvB then store s (ownB s.sc nx.num (bhLookup s.bh (nx.num - 1))) else s).out ++ emitFor s nx } := by
  unfold sendAll
  simp only [foldStore_emit]

theorem HInv.withOut {s : State} (inv : HInv H sc M s) (o : List Msg) : HInv H sc M { s with out := o } :=
  { inv with }

theorem HInv.send {s : State} (inv : HInv H sc M s) (nx : RoundSpec)
    (hbv : bhLookup s.bh (nx.num - 1) = expBh H sc M (nx.num - 1)) : HInv H sc M (sendAll s (emitFor s nx)) := by
  rw [sendAll_eq]
  apply HInv.withOut
  split
  · apply inv.store_or_own
    right
    rw [hbv, inv.scEq]
    exact ⟨rfl, rfl⟩
  · exact inv

theorem HInv.next_lt {s : State} (hM : Honest H sc M) (inv : HInv H sc M s) (nx : RoundSpec)
    (hn : sc.rounds[s.idx + 1]? = some nx) : s.cur < nx.num := by
  obtain ⟨spec, h1, h2⟩ := inv.idx
  exact h2 ▸ hM.script.num_lt h1 hn (Nat.lt_succ_self _)

theorem HInv.enter {s : State} (hM : Honest H sc M) (inv : HInv H sc M s) (nx : RoundSpec)
    (hn : sc.rounds[s.idx + 1]? = some nx) : HInv H sc M (enter s (s.idx + 1) nx) := by
  have hlt := inv.next_lt hM nx hn
  refine { inv with idx := ⟨nx, hn, rfl⟩, reached := ?_, curIn := ?_ }
  · intro r hr
    simp only [Handler.enter, List.mem_append, List.mem_singleton] at hr ⊢
    rcases hr with hr | rfl
    · have := inv.reached r hr
      omega
    · omega
  · simp [Handler.enter]

theorem HInv.bh_none {s : State} (inv : HInv H sc M s) (r : Nat) (h : expBh H sc M r = none) : bhLookup s.bh r = none := by
  cases hb : bhLookup s.bh r with
  | none => rfl
  | some x => rw [inv.bh r x hb] at h; cases h

theorem fillBh_filled (H : Bytes → Bytes) (s : State) (hc : ((curSpec s).recvB && hasSlot s.sc s.cur) = true)
    (hr : receivedAllB H s = true) : (bhLookup (fillBh H s).bh s.cur).isSome = true := by
  rw [bhLookup_fillBh, hc]
  simp only [Bool.and_eq_true] at hc
  have he : (echoHash H s.sc s.bc s.cur).isSome = true := by
    rw [echoHash_isSome, List.all_eq_true]; exact (receivedAllB_true hr hc.2).1 hc.1
  obtain ⟨h, he⟩ := Option.isSome_iff_exists.mp he
  cases bhLookup s.bh s.cur <;> simp [he]

theorem HInv.bv_exact {s : State} (hM : Honest H sc M) (inv : HInv H sc M s) (nx : RoundSpec)
    (hn : sc.rounds[s.idx + 1]? = some nx) (hr : receivedAllB H s = true) :
    bhLookup (fillBh H s).bh (nx.num - 1) = expBh H sc M (nx.num - 1) := by
  have inv1 := inv.fill hM
  cases hx : expBh H sc M (nx.num - 1) with
  | none => exact inv1.bh_none _ hx
  | some h =>
    -- the number nx.num - 1 has a round: it is the current one
    obtain ⟨sp, hsp, hc⟩ := expBh_guard hx
    have hcur : s.cur = nx.num - 1 := by
      obtain ⟨spec, h1, h2⟩ := inv.idx
      have hlt := inv.next_lt hM nx hn
      have : ¬ s.cur < nx.num - 1 := fun g => by have := hM.script.no_gap h1 hn hsp (h2 ▸ g); omega
      omega
    rw [← hcur] at hx hsp hc ⊢
    rw [inv.specOf_cur hM] at hsp
    rw [Option.some.inj hsp.symm, ← inv.scEq] at hc
    obtain ⟨y, hy⟩ := Option.isSome_iff_exists.mp (fillBh_filled H s hc hr)
    exact hy.trans ((inv1.bh _ _ hy).symm.trans hx)

def preReplay (H : Bytes → Bytes) (s : State) (nx : RoundSpec) : State :=
  enter (sendAll (fillBh H s) (emitFor (fillBh H s) nx)) (s.idx + 1) nx

theorem preReplay_frame (H : Bytes → Bytes) (s : State) (nx : RoundSpec) :
    (preReplay H s nx).sc = s.sc ∧ (preReplay H s nx).idx = s.idx + 1 ∧ (preReplay H s nx).cur = nx.num ∧
    (preReplay H s nx).acc = s.acc := by
  refine ⟨?_, rfl, rfl, ?_⟩
  · show (sendAll _ _).sc = _
    rw [sendAll_sc, fillBh_eq]
  · show (sendAll _ _).acc = _
    rw [sendAll_with, fillBh_eq]

theorem curSpec_preReplay (H : Bytes → Bytes) {s : State} {nx : RoundSpec} (hn : s.sc.rounds[s.idx + 1]? = some nx) :
    curSpec (preReplay H s nx) = nx :=
  curSpec_of_getElem? (by rw [(preReplay_frame H s nx).1, (preReplay_frame H s nx).2.1]; exact hn)

theorem lookup_preReplay (H : Bytes → Bytes) (s : State) (nx : RoundSpec) (b : Bool) (r : Nat) (id : Bytes) :
    lookup (qOf b (preReplay H s nx)) r id = (lookup (qOf b s) r id).or
      (if nx.recvB && hasSlot s.sc nx.num && b && (nx.num == r && s.sc.self == id)
        then some (ownB s.sc nx.num (bhLookup (fillBh H s).bh (nx.num - 1))) else none) := by
  have e : qOf b (preReplay H s nx) = qOf b (if nx.recvB
      then store (fillBh H s) (ownB (fillBh H s).sc nx.num (bhLookup (fillBh H s).bh (nx.num - 1))) else fillBh H s) := by
    unfold preReplay; rw [sendAll_eq]; cases b <;> rfl
  have hq : qOf b (fillBh H s) = qOf b s := by rw [fillBh_eq H s]; cases b <;> rfl
  have hsc : (fillBh H s).sc = s.sc := by rw [fillBh_eq H s]
  rw [e]
  cases nx.recvB with
  | false => rw [if_neg Bool.false_ne_true, hq]; simp
  | true =>
    rw [if_pos rfl, lookup_store, hq, hsc]
    cases b <;> rfl

theorem HInv.preReplay {s : State} (hM : Honest H sc M) (inv : HInv H sc M s) (nx : RoundSpec)
    (hn : sc.rounds[s.idx + 1]? = some nx) (hr : receivedAllB H s = true) : HInv H sc M (preReplay H s nx) := by
  have inv1 := inv.fill hM
  have inv3 := inv1.send nx (inv.bv_exact hM nx hn hr)
  have hi : (sendAll (fillBh H s) (emitFor (fillBh H s) nx)).idx = s.idx := by rw [sendAll_with, fillBh_idx]
  have := inv3.enter hM nx (by rw [hi]; exact hn)
  rw [hi] at this
  exact this

theorem protoFinalize_honest {s : State} (hM : Honest H sc M) (inv : HInv H sc M s) :
    protoFinalize (fillBh H s) =
      if sc.finErrAt != 0 && sc.finErrAt == s.cur then .error
      else match sc.rounds[s.idx + 1]? with
        | some nx => .round (s.idx + 1) nx
        | none => .output s.acc := by
  have inv1 := inv.fill hM
  unfold protoFinalize
  rw [inv1.scEq, inv1.accused, fillBh_eq]
  simp only [bne_self_eq_false, Bool.false_eq_true, if_false]
  rfl

theorem finalizeStep_honest {s : State} (hM : Honest H sc M) (inv : HInv H sc M s) :
    finalizeStep H s =
      if !receivedAllB H s then .halt (fillBh H s)
      else if sc.finErrAt != 0 && sc.finErrAt == s.cur then .halt (abort (fillBh H s) (some .finalizeErr))
      else match sc.rounds[s.idx + 1]? with
        | none => .halt (abort { enter0 (fillBh H s) with result := some s.acc } none)
        | some nx => .more (addAcc (preReplay H s nx) (rsum (preReplay H s nx))) := by
  have inv1 := inv.fill hM
  unfold finalizeStep
  simp only
  cases hr : receivedAllB H s with
  | false => simp
  | true =>
    simp only [Bool.not_true, Bool.false_eq_true, if_false, inv1.check hM]
    rw [protoFinalize_honest hM inv]
    by_cases hf : (sc.finErrAt != 0 && sc.finErrAt == s.cur) = true
    · simp only [hf, if_true]
    · simp only [hf]
      cases hn : sc.rounds[s.idx + 1]? with
      | none =>
        simp only [inv1.not_reached (Or.inl rfl), Bool.false_eq_true, if_false]
      | some nx =>
        simp only
        have inv3 := inv1.send nx (inv.bv_exact hM nx hn hr)
        simp only [inv3.not_reached (Or.inr (by rw [sendAll_cur, fillBh_cur]; exact inv.next_lt hM nx hn)),
          Bool.false_eq_true, if_false]
        have inv4 := inv.preReplay hM nx hn hr
        have hq := replayQueued_honest hM inv4
        unfold preReplay at hq ⊢
        rw [hq]

theorem finalizeStep_more_idx (H : Bytes → Bytes) (s t : State) (h : finalizeStep H s = .more t) :
    t.sc = s.sc ∧ t.idx = s.idx + 1 ∧ t.idx < s.sc.rounds.length := by
  revert h
  refine finalizeStep_cases H s (motive := fun st => st = .more t → _) nofun (fun _ _ => nofun) (fun _ _ _ => nofun)
    (fun _ _ _ _ => nofun) (fun _ _ _ _ => nofun) (fun _ _ _ _ _ => nofun) fun i nx s5 f _ _ hpf hq h => ?_
  cases f with
  | some f => cases h
  | none =>
    cases h
    obtain ⟨hr, hi⟩ := protoFinalize_round _ i nx hpf
    have c := replayed_sameCore hq
    have hsc : t.sc = s.sc := by
      rw [← c.1]; show (sendAll _ _).sc = _; rw [sendAll_sc, fillBh_eq]
    have hidx : t.idx = i := c.2.1.symm
    rw [fillBh_eq] at hr
    exact ⟨hsc, by rw [hidx, hi, fillBh_idx], by rw [hidx]; exact (List.getElem?_eq_some_iff.mp hr).1⟩

theorem finalize_fuel (H : Bytes → Bytes) (f1 f2 : Nat) (s : State) (hi : s.idx < s.sc.rounds.length)
    (h1 : s.sc.rounds.length ≤ f1 + s.idx) (h2 : s.sc.rounds.length ≤ f2 + s.idx) :
    finalize H f1 s = finalize H f2 s := by
  induction f1 generalizing f2 s with
  | zero => omega
  | succ f1 ih =>
    cases f2 with
    | zero => omega
    | succ f2 =>
      unfold finalize
      cases hst : finalizeStep H s with
      | halt t => rfl
      | more t =>
        simp only
        obtain ⟨e1, e2, e3⟩ := finalizeStep_more_idx H s t hst
        apply ih
        · rw [e1]; exact e3
        · rw [e1, e2]; omega
        · rw [e1, e2]; omega

/-- the fuel is the one `init` and `accept` give -/
theorem finalize_honest {s : State} (hM : Honest H sc M) (inv : HInv H sc M s) :
    finalize H (sc.rounds.length + 1) s =
      if !receivedAllB H s then fillBh H s
      else if sc.finErrAt != 0 && sc.finErrAt == s.cur then abort (fillBh H s) (some .finalizeErr)
      else match sc.rounds[s.idx + 1]? with
        | none => abort { enter0 (fillBh H s) with result := some s.acc } none
        | some nx => finalize H (sc.rounds.length + 1) (addAcc (preReplay H s nx) (rsum (preReplay H s nx))) := by
  show (match finalizeStep H s with | .halt s' => s' | .more s' => finalize H sc.rounds.length s') = _
  rw [finalizeStep_honest hM inv]
  cases hrv : receivedAllB H s with
  | false => rfl
  | true =>
    simp only [Bool.not_true, Bool.false_eq_true, if_false]
    by_cases hfe : (sc.finErrAt != 0 && sc.finErrAt == s.cur) = true
    · simp only [hfe, if_true]
    · simp only [hfe, if_false, Bool.false_eq_true]
      cases hn : sc.rounds[s.idx + 1]? with
      | none => rfl
      | some nx =>
        have hsc : (addAcc (preReplay H s nx) (rsum (preReplay H s nx))).sc = sc := (inv.preReplay hM nx hn hrv).scEq
        have hlen := (List.getElem?_eq_some_iff.mp hn).1
        have hidx : (addAcc (preReplay H s nx) (rsum (preReplay H s nx))).idx = s.idx + 1 := rfl
        exact finalize_fuel H sc.rounds.length (sc.rounds.length + 1) _ (by rw [hsc, hidx]; exact hlen)
          (by rw [hsc, hidx]; omega) (by rw [hsc, hidx]; omega)

theorem finalize_honest_induct (hM : Honest H sc M) {P : State → State → Prop}
    (stuck : ∀ s, HInv H sc M s → receivedAllB H s = false → P s (fillBh H s))
    (failed : ∀ s, HInv H sc M s → receivedAllB H s = true → (sc.finErrAt != 0 && sc.finErrAt == s.cur) = true →
      P s (abort (fillBh H s) (some .finalizeErr)))
    (done : ∀ s, HInv H sc M s → receivedAllB H s = true → (sc.finErrAt != 0 && sc.finErrAt == s.cur) = false →
      sc.rounds[s.idx + 1]? = none → P s (abort { enter0 (fillBh H s) with result := some s.acc } none))
    (next : ∀ s nx t, HInv H sc M s → receivedAllB H s = true → (sc.finErrAt != 0 && sc.finErrAt == s.cur) = false →
      sc.rounds[s.idx + 1]? = some nx → P (addAcc (preReplay H s nx) (rsum (preReplay H s nx))) t → P s t)
    {s : State} (inv : HInv H sc M s) : P s (finalize H (sc.rounds.length + 1) s) := by
  generalize hn : sc.rounds.length - s.idx = n
  induction n generalizing s with
  | zero => have := inv.idx_lt; omega
  | succ n ih =>
    rw [finalize_honest hM inv]
    cases hrv : receivedAllB H s with
    | false => exact stuck s inv hrv
    | true =>
      simp only [Bool.not_true, Bool.false_eq_true, if_false]
      cases hfe : (sc.finErrAt != 0 && sc.finErrAt == s.cur) with
      | true => exact failed s inv hrv hfe
      | false =>
        simp only [Bool.false_eq_true, if_false]
        cases hnx : sc.rounds[s.idx + 1]? with
        | none => exact done s inv hrv hfe hnx
        | some nx =>
          exact next s nx _ inv hrv hfe hnx (ih ((inv.preReplay hM nx hnx hrv).addAcc _)
            (by show sc.rounds.length - (s.idx + 1) = n; omega))

theorem curSpec_store (s : State) (m : Msg) : curSpec (store s m) = curSpec s := by
  unfold curSpec; rw [store_sc, (store_idx s m).1]

def Fresh (s : State) (m : Msg) : Prop := lookup (qOf m.bcast s) m.rnd m.frm = none

theorem Fresh.bc {s : State} {m : Msg} (hf : Fresh s m) (hb : m.bcast = true) : lookup s.bc m.rnd m.frm = none := by
  unfold Fresh at hf; rwa [hb] at hf
theorem Fresh.msgs {s : State} {m : Msg} (hf : Fresh s m) (hb : m.bcast = false) : lookup s.msgs m.rnd m.frm = none := by
  unfold Fresh at hf; rwa [hb] at hf

theorem canAccept_honest {s : State} {m : Msg} (hs : s.sc = sc) (hh : HonestMsg H sc M m) (hr : s.cur ≤ m.rnd) :
    canAccept s m = true := by
  subst hs
  exact (canAccept_iff s m).mpr
    ⟨hh.notSelf, hh.toMe, hh.proto, hh.ssid, hh.known, hh.data, (hasSlot_iff.mp hh.slot).2, Or.inl hr⟩

/-- In a round that takes broadcasts a p2p message is credited only once its sender's broadcast is there: on its own
    verification if the broadcast came first, together with the broadcast otherwise. -/
def delta (s : State) (m : Msg) : Nat :=
  if m.bcast then
    val m + (if (curSpec s).recvP then (match lookup s.msgs m.rnd m.frm with | some p => val p | none => 0) else 0)
  else if (curSpec s).recvB && (lookup s.bc m.rnd m.frm).isNone then 0 else val m

theorem delta_addAcc (s : State) (v : Nat) (m : Msg) : delta (addAcc s v) m = delta s m := rfl

theorem delta_store {s : State} (m : Msg) : delta (store s m) m = delta s m := by
  unfold delta
  rw [curSpec_store]
  cases hb : m.bcast with
  | true =>
    simp only [if_true]
    rw [lookup_store_msgs']
    simp [hb]
  | false =>
    simp only [Bool.false_eq_true, if_false]
    rw [lookup_store_bc']
    simp [hb]

theorem verify_honest {s : State} (hM : Honest H sc M) (inv : HInv H sc M s) (m : Msg) (hm : m ∈ M) (hr : m.rnd = s.cur)
    (hst : m.bcast = true → lookup s.bc m.rnd m.frm = some m) :
    (if m.bcast then verifyBroadcastMessage s m else verifyMessage s m) = .ok (addAcc s (delta s m)) := by
  unfold delta
  cases hb : m.bcast with
  | true => exact verifyBroadcastMessage_honest hM inv m hm hr hb (hst hb)
  | false =>
    simp only [Bool.false_eq_true, if_false]
    rw [verifyMessage_honest hM inv m hm hr hb]
    split
    · rw [addAcc_zero]
    · rfl

theorem accept_honest {s : State} (hM : Honest H sc M) (inv : HInv H sc M s) (m : Msg) (hm : m ∈ M) (hf : Fresh s m)
    (hr : s.cur ≤ m.rnd) :
    accept H s m =
      if m.rnd = s.cur then finalize H (sc.rounds.length + 1) (addAcc (store s m) (delta s m)) else store s m := by
  have hh := hM.msgs m hm
  have h0 := hasSlot_ne_zero hh.slot
  have hd : duplicate s m = false := by rw [duplicate_eq (inv.scEq ▸ hh.slot), hf]; rfl
  unfold accept
  simp only [canAccept_honest inv.scEq hh hr, not_terminal_of_live inv.live, hd, Bool.not_true, Bool.or_self,
    Bool.false_eq_true, if_false, h0]
  unfold acceptStored
  rw [(store_idx s m).2]
  by_cases hc : m.rnd = s.cur
  · have inv' := inv.store m hm
    rw [if_pos hc, if_neg (by simp [hc]),
      verify_honest hM inv' m hm (hc.trans (store_idx s m).2.symm) (store_lookup s m hd h0).1, delta_store]
    show finalize H ((store s m).sc.rounds.length + 1) _ = _
    rw [inv'.scEq]
  · rw [if_neg hc, if_pos (by simpa using Ne.symm hc)]

theorem receivedAllB_missing {s : State} (hM : Honest H sc M) (inv : HInv H sc M s) (m : Msg) (hm : m ∈ M)
    (hf : Fresh s m) (hr : m.rnd = s.cur) : receivedAllB H s = false := by
  obtain rfl := inv.scEq
  have hh := hM.msgs m hm
  have hrecv := inv.recv hM hm hr
  cases hrv : receivedAllB H s with
  | false => rfl
  | true =>
    obtain ⟨hB, hP⟩ := receivedAllB_true hrv (hr ▸ hh.slot)
    cases hb : m.bcast with
    | true =>
      have := hB (by simpa [hb] using hrecv) m.frm hh.known
      rw [← hr, hf.bc hb] at this; cases this
    | false =>
      have := hP (by simpa [hb] using hrecv) m.frm (List.mem_filter.mpr ⟨hh.known, by simpa using hh.notSelf⟩)
      rw [← hr, hf.msgs hb] at this; cases this

theorem Fresh.fill {s : State} {m : Msg} (hf : Fresh s m) : Fresh (fillBh H s) m := by
  rw [fillBh_eq H s]; exact hf

theorem Fresh.preReplay {s : State} {m : Msg} (hf : Fresh s m) (nx : RoundSpec) (hself : m.frm ≠ s.sc.self) :
    Fresh (preReplay H s nx) m := by
  have : (s.sc.self == m.frm) = false := by simpa using Ne.symm hself
  rw [Fresh, lookup_preReplay, hf, this]; simp

theorem delta_fillBh (s : State) (m : Msg) : delta (fillBh H s) m = delta s m := by
  rw [fillBh_eq H s]; rfl

end

end Mps.Handler
