import MpsProofs.Order
/-
  One handler fed with honest messages (`Honest`, MpsProofs/Honest.lean) in any order, in closed form: progress
  (`run_stuck`: a handler that has not ended waits for a message that was not delivered) and the value it outputs when
  it was given everything the script expects (`run_value`). By `run_canon` (MpsProofs/Order.lean) it is enough to look
  at `finalize` from the state with all messages queued; both go by the induction along that `finalize`
  (`finalize_honest_induct`). What the handler has emitted is in MpsProofs/System.lean. Core-only.
-/
namespace Mps.Handler

def OwnStored (s : State) : Prop :=
  ((curSpec s).recvB && hasSlot s.sc s.cur) = true → (lookup s.bc s.cur s.sc.self).isSome = true

section
variable {H : Bytes → Bytes} {sc : Script} {M : List Msg}

theorem OwnStored.preReplay {s : State} (inv : HInv H sc M s) (nx : RoundSpec)
    (hn : sc.rounds[s.idx + 1]? = some nx) (v : Nat) : OwnStored (addAcc (Handler.preReplay H s nx) v) := by
  obtain ⟨hsc, -, hcur, -⟩ := preReplay_frame H s nx
  intro hc
  change ((curSpec (Handler.preReplay H s nx)).recvB &&
    hasSlot (Handler.preReplay H s nx).sc (Handler.preReplay H s nx).cur) = true at hc
  rw [curSpec_preReplay H (inv.scEq ▸ hn), hsc, hcur] at hc
  show (lookup (qOf true (Handler.preReplay H s nx)) (Handler.preReplay H s nx).cur
    (Handler.preReplay H s nx).sc.self).isSome = true
  rw [lookup_preReplay, hsc, hcur, hc]
  cases lookup (qOf true s) nx.num s.sc.self <;> simp

theorem finalize_honest_stuck (hM : Honest H sc M) {s : State} (inv : HInv H sc M s) : OwnStored s →
    terminal (finalize H (sc.rounds.length + 1) s) = true ∨
    (HInv H sc M (finalize H (sc.rounds.length + 1) s) ∧ OwnStored (finalize H (sc.rounds.length + 1) s) ∧
      receivedAllB H (finalize H (sc.rounds.length + 1) s) = false) :=
  finalize_honest_induct hM (P := fun s t => OwnStored s →
      terminal t = true ∨ (HInv H sc M t ∧ OwnStored t ∧ receivedAllB H t = false))
    (fun s inv hrv o => Or.inr ⟨inv.fill hM, by rw [fillBh_eq H s]; exact o, by rw [fillBh_eq H s]; exact hrv⟩)
    (fun _ _ _ _ _ => Or.inl (by simp [terminal, abort])) (fun _ _ _ _ _ _ => Or.inl (by simp [terminal, abort]))
    (fun _ nx _ inv _ _ hn ih _ => ih (OwnStored.preReplay inv nx hn _)) inv

theorem missing_of_incomplete (hM : Honest H sc M) {s : State} (inv : HInv H sc M s) (o : OwnStored s)
    (hr : receivedAllB H s = false) :
    1 ≤ s.idx ∧ ∃ q ∈ sc.ids, q ≠ sc.self ∧ ∃ b : Bool, (if b then (curSpec s).recvB else (curSpec s).recvP) = true ∧
      lookup (qOf b s) s.cur q = none := by
  obtain ⟨hs, hmiss⟩ := receivedAllB_false H s hr
  rw [inv.scEq] at hmiss
  constructor
  · -- the first round has no queue
    obtain ⟨spec, h1, h2⟩ := inv.idx
    have hf := hM.script.first
    rcases Nat.eq_zero_or_pos s.idx with h0 | h0
    · rw [h0] at h1
      rw [h1] at hf
      simp only [Option.map_some, Option.some.injEq] at hf
      have := hasSlot_iff.mp hs
      omega
    · exact h0
  · rcases hmiss with ⟨hB, q, hq, hl⟩ | ⟨hP, q, hq, hl⟩
    · refine ⟨q, hq, fun e => ?_, true, hB, hl⟩
      -- the own broadcast is there
      have := o (by rw [hB, hs]; rfl)
      rw [inv.scEq, ← e, hl] at this
      cases this
    · obtain ⟨h1, h2⟩ := List.mem_filter.mp hq
      exact ⟨q, h1, by simpa using h2, false, hP, hl⟩

theorem run_stuck (hM : Honest H sc M) (l : List Msg) (hl : ∀ m ∈ l, m ∈ M)
    (hnt : terminal (run H sc (l.map Call.accept)) = false) :
    1 ≤ (run H sc (l.map Call.accept)).idx ∧ ∃ q ∈ sc.ids, q ≠ sc.self ∧ ∃ (b : Bool) (sp : RoundSpec),
      sc.rounds[(run H sc (l.map Call.accept)).idx]? = some sp ∧ (if b then sp.recvB else sp.recvP) = true ∧
      ∀ m ∈ l, ¬ (m.rnd = sp.num ∧ m.frm = q ∧ m.bcast = b) := by
  have hfe := (run_canon hM l hl).feq
  obtain ⟨_, e2, _⟩ := hfe.fields
  have ht : terminal (canon H sc l) = false := by rw [← terminal_feq hfe]; exact hnt
  have hinv0 := preload_hinv hM l hl
  have hc0 := preload_cur hM l
  have ho0 : OwnStored (preload sc l) := by
    intro hc
    have := hasSlot_iff.mp (Bool.and_eq_true_iff.mp hc).2
    have := hc0.1
    omega
  rcases finalize_honest_stuck hM hinv0 ho0 with h | ⟨inv, o, hr⟩
  · unfold canon at ht; rw [ht] at h; cases h
  · have hcan : finalize H (sc.rounds.length + 1) (preload sc l) = canon H sc l := rfl
    rw [hcan] at inv o hr
    obtain ⟨hi, q, hq, hne, b, hflag, hmiss⟩ := missing_of_incomplete hM inv o hr
    rw [e2]
    refine ⟨hi, q, hq, hne, b, curSpec (canon H sc l), inv.curSpec_eq.1, hflag, ?_⟩
    intro m hm ⟨h1, h2, h3⟩
    have hk : HasKey m (canon H sc l) := finalize_pres (hasKey_preserved H m) _ _ (preload_hasKey hM l hl m hm)
    rw [HasKey, h1, h2, h3, inv.curSpec_eq.2, hmiss] at hk
    cases hk

/-- what the messages of round `sp` add to the protocol state of the party running `sc` -/
def roundValue (sc : Script) (sp : RoundSpec) : Nat :=
  ((others sc).map fun q =>
    (if sp.recvB then honestV sc q [] sp.num else 0) + (if sp.recvP then honestV sc q sc.self sp.num else 0)).sum

def shareOf (sc : Script) (sp : RoundSpec) (q : Bytes) : Nat :=
  if q == sc.self then 0
  else (if sp.recvB then honestV sc q [] sp.num else 0) + (if sp.recvP then honestV sc q sc.self sp.num else 0)

theorem sum_shareOf (sc : Script) (sp : RoundSpec) : (sc.ids.map (shareOf sc sp)).sum = roundValue sc sp := by
  unfold roundValue others
  generalize sc.ids = l
  induction l with
  | nil => rfl
  | cons x xs ih =>
    rw [List.map_cons, List.sum_cons, ih, List.filter_cons]
    by_cases hx : (x == sc.self) = true
    · have : (x != sc.self) = false := by simp [bne, hx]
      simp [shareOf, hx, this]
    · have : (x != sc.self) = true := by simp [bne, hx]
      simp [shareOf, hx, this]

theorem lookup_of_hasKey (hM : Honest H sc M) {s : State} (inv : HInv H sc M s) (m : Msg) (hm : m ∈ M) (hk : HasKey m s) :
    lookup (qOf m.bcast s) m.rnd m.frm = some m := by
  obtain ⟨y, hy⟩ := Option.isSome_iff_exists.mp hk
  obtain ⟨h1, h2, h3, h4⟩ := inv.stored m.bcast hy fun _ => (hM.msgs m hm).notSelf
  rw [hy, hM.uniq y h1 m hm h2 h3 h4]

def Full (sc : Script) (l : List Msg) : Prop :=
  ∀ i nx, 1 ≤ i → sc.rounds[i]? = some nx → ∀ q ∈ sc.ids, q ≠ sc.self →
    (nx.recvB = true → ∃ m ∈ l, m.rnd = nx.num ∧ m.frm = q ∧ m.bcast = true ∧ val m = honestV sc q [] nx.num) ∧
    (nx.recvP = true → ∃ m ∈ l, m.rnd = nx.num ∧ m.frm = q ∧ m.bcast = false ∧ val m = honestV sc q sc.self nx.num)

theorem rsum_full (hM : Honest H sc M) (l : List Msg) (hl : ∀ m ∈ l, m ∈ M) (full : Full sc l) {t : State}
    (inv : HInv H sc M t) (hk : ∀ m ∈ l, HasKey m t) (hi : 1 ≤ t.idx) : rsum t = roundValue sc (curSpec t) := by
  obtain rfl := inv.scEq
  obtain ⟨hrd, hnum⟩ := inv.curSpec_eq
  rw [← sum_shareOf]
  refine congrArg List.sum (List.map_congr_left fun q hq => ?_)
  have hP : ∀ y, lookup t.msgs t.cur q = some y → (curSpec t).recvP = true ∧ q ≠ t.sc.self := by
    intro y hy
    obtain ⟨h1, h2, h3, h4⟩ := inv.stored false hy nofun
    exact ⟨by simpa [h4] using inv.recv hM h1 h2, h3 ▸ (hM.msgs y h1).notSelf⟩
  have get : ∀ b : Bool, q ≠ t.sc.self → (if b then (curSpec t).recvB else (curSpec t).recvP) = true →
      ∃ m, lookup (qOf b t) t.cur q = some m ∧
        val m = honestV t.sc q (if b then [] else t.sc.self) (curSpec t).num := by
    intro b hne hb
    obtain ⟨fB, fP⟩ := full t.idx (curSpec t) hi hrd q hq hne
    obtain ⟨m, hm, h1, h2, h3, h4⟩ : ∃ m ∈ l, m.rnd = (curSpec t).num ∧ m.frm = q ∧ m.bcast = b ∧
        val m = honestV t.sc q (if b then [] else t.sc.self) (curSpec t).num := by
      cases b
      · exact fP hb
      · exact fB hb
    have := lookup_of_hasKey hM inv m (hl m hm) (hk m hm)
    rw [h3, h1, h2, hnum] at this
    exact ⟨m, this, h4⟩
  unfold contrib shareOf
  by_cases hself : q = t.sc.self
  · cases hlk : lookup t.msgs t.cur q with
    | some y => exact absurd hself (hP y hlk).2
    | none => simp [hself]
  · have hs : (q == t.sc.self) = false := by simpa using hself
    rw [hs]
    cases hB : (curSpec t).recvB <;> cases hR : (curSpec t).recvP
    · cases hlk : lookup t.msgs t.cur q with
      | some y => rw [(hP y hlk).1] at hR; cases hR
      | none => rfl
    · obtain ⟨p, ep, vp⟩ := get false hself (by simpa using hR)
      rw [show lookup t.msgs t.cur q = some p from ep]
      simp [vp]
    · obtain ⟨m, em, vm⟩ := get true hself (by simpa using hB)
      rw [show lookup t.bc t.cur q = some m from em]
      simp [vm]
    · obtain ⟨m, em, vm⟩ := get true hself (by simpa using hB)
      obtain ⟨p, ep, vp⟩ := get false hself (by simpa using hR)
      rw [show lookup t.bc t.cur q = some m from em, show lookup t.msgs t.cur q = some p from ep]
      simp [vm, vp]

theorem finalize_honest_value (hM : Honest H sc M) (l : List Msg) (hl : ∀ m ∈ l, m ∈ M) (full : Full sc l)
    {s : State} (inv : HInv H sc M s) : (∀ m ∈ l, HasKey m s) → ∀ v, (finalize H (sc.rounds.length + 1) s).result = some v →
      v = s.acc + ((sc.rounds.drop (s.idx + 1)).map (roundValue sc)).sum :=
  finalize_honest_induct hM (P := fun s t => (∀ m ∈ l, HasKey m s) → ∀ v, t.result = some v →
      v = s.acc + ((sc.rounds.drop (s.idx + 1)).map (roundValue sc)).sum)
    (fun s inv _ _ v hres => by rw [(inv.fill hM).live.2.2] at hres; cases hres)
    (fun s inv _ _ _ v hres => by
      have l1 := (inv.fill hM).live.2.2
      generalize fillBh H s = t at hres l1
      rw [show (abort t (some ErrKind.finalizeErr)).result = t.result from rfl, l1] at hres; cases hres)
    (fun s _ _ _ hn _ v hres => by
      generalize fillBh H s = t at hres
      rw [show (abort { enter0 t with result := some s.acc } none).result = some s.acc from rfl] at hres
      rw [List.drop_eq_nil_of_le (List.getElem?_eq_none_iff.mp hn)]
      simp only [List.map_nil, List.sum_nil, Nat.add_zero]
      exact (Option.some.inj hres).symm)
    (fun s nx _ inv hrv _ hn ih hk v hres => by
      have invp := inv.preReplay hM nx hn hrv
      have hkp : ∀ m ∈ l, HasKey m (preReplay H s nx) := fun m hm =>
        (hasKey_preserved H m).onSend _ nx ((hasKey_preserved H m).onFill s (hk m hm))
      obtain ⟨-, hidx, -, hacc⟩ := preReplay_frame H s nx
      rw [ih hkp v hres, show (addAcc (preReplay H s nx) (rsum (preReplay H s nx))).acc = (preReplay H s nx).acc +
          rsum (preReplay H s nx) from rfl, rsum_full hM l hl full invp hkp (by rw [hidx]; omega),
        curSpec_preReplay H (inv.scEq ▸ hn), hacc, show (addAcc (preReplay H s nx) _).idx = s.idx + 1 from rfl,
        List.drop_eq_getElem_cons (List.getElem?_eq_some_iff.mp hn).1, (List.getElem?_eq_some_iff.mp hn).2]
      simp only [List.map_cons, List.sum_cons]
      omega) inv

theorem run_value (hM : Honest H sc M) (l : List Msg) (hl : ∀ m ∈ l, m ∈ M) (full : Full sc l) (v : Nat)
    (hres : (run H sc (l.map Call.accept)).result = some v) :
    v = ((sc.rounds.drop 1).map (roundValue sc)).sum := by
  have hacc : (preload sc l).acc = 0 := (foldl_store_feq l (state0 sc)).acc
  have := finalize_honest_value hM l hl full (preload_hinv hM l hl) (preload_hasKey hM l hl) v
    ((run_canon hM l hl).feq.result.symm.trans hres)
  rw [hacc, (preload_cur hM l).2] at this
  simpa using this

end

end Mps.Handler
