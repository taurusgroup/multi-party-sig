import MpsProofs.Session
import Mps.Nonce
/-
  The inputs of the nonce derivations (C11), core-only. An unframed field between neighbours as wide in one input as
  in the other can be cut out (`frostNonceInput_inj`, `nonceInput_inj`: `List.append_inj` from both ends); the FROST
  session items determine the context through `sessionItems_injective`; `d ⊕ ·` is injective on strings no longer
  than `d`.
-/
namespace Mps.Nonce

theorem frostNonceInput_inj (sd sd' m m' a a' : Bytes) (hs : sd.length = sd'.length) (ha : a.length = a'.length)
    (h : frostNonceInput sd m a = frostNonceInput sd' m' a') : sd = sd' ∧ m = m' ∧ a = a' := by
  unfold frostNonceInput at h
  have h1 := List.append_inj' h ha
  have h2 := List.append_inj h1.1 hs
  exact ⟨h2.1, h2.2, h1.2⟩

theorem str_append (a b : String) : str (a ++ b) = str a ++ str b := by
  simp [str, String.toList_append]

/-- the taproot id extends the plain one, so only the suffix has to be evaluated -/
theorem proto_ne : str protocolID ≠ str protocolIDTaproot := by
  rw [show protocolIDTaproot = protocolID ++ "-taproot" from rfl, str_append]
  exact fun h => absurd (List.self_eq_append_right.mp h) (by decide)

theorem proto_inj (t t' : Bool)
    (h : str (if t then protocolIDTaproot else protocolID) = str (if t' then protocolIDTaproot else protocolID)) :
    t = t' := by
  cases t <;> cases t'
  · rfl
  · exact absurd h proto_ne
  · exact absurd h.symm proto_ne
  · rfl

/-- `SessionParams.WF` of `frostSession _ _ signers thr` -/
structure SessionWF (signers : List Bytes) (thr : Nat) : Prop where
  count : signers.length < 2 ^ 64
  each  : ∀ i ∈ signers, i.length < 2 ^ 64
  thr   : thr < 256 ^ 4

theorem frostSession_items_inj (sid sid' : Option Bytes) (t t' : Bool) (ids ids' : List Bytes) (thr thr' : Nat)
    (w : SessionWF ids thr) (w' : SessionWF ids' thr')
    (h : sessionItems (frostSession sid t ids thr) = sessionItems (frostSession sid' t' ids' thr')) :
    sid = sid' ∧ t = t' ∧ ids = ids' ∧ thr = thr' := by
  have := sessionItems_injective _ _ ⟨w.count, w.each, w.thr⟩ ⟨w'.count, w'.each, w'.thr⟩ h
  simp only [frostSession, SessionParams.mk.injEq] at this
  exact ⟨this.1, proto_inj t t' this.2.1, this.2.2.2.1, this.2.2.2.2.1⟩

theorem bytesXor_length (a b : Bytes) : (Sig.bytesXor a b).length = min a.length b.length := by
  simp [Sig.bytesXor]

theorem bytesXor_cancel (d h h' : Bytes) (hl : h.length = h'.length) (hd : h.length ≤ d.length)
    (e : Sig.bytesXor d h = Sig.bytesXor d h') : h = h' := by
  apply List.ext_getElem hl
  intro i h1 h2
  have := congrArg (·[i]?) e
  simp only [Sig.bytesXor, List.getElem?_zipWith, List.getElem?_eq_getElem h1, List.getElem?_eq_getElem h2,
    List.getElem?_eq_getElem (Nat.lt_of_lt_of_le h1 hd), Option.some.injEq] at this
  exact (UInt8.xor_right_inj _).mp this

theorem nonceInput_inj (d d' h h' P P' m m' : Bytes)
    (hx : (Sig.bytesXor d h).length = (Sig.bytesXor d' h').length) (hP : P.length = P'.length)
    (e : Sig.Bip340.nonceInput d h P m = Sig.Bip340.nonceInput d' h' P' m') :
    Sig.bytesXor d h = Sig.bytesXor d' h' ∧ P = P' ∧ m = m' := by
  unfold Sig.Bip340.nonceInput at e
  rw [List.append_assoc, List.append_assoc] at e
  have e1 := List.append_inj e hx
  have e2 := List.append_inj e1.2 hP
  exact ⟨e1.1, e2.1, e2.2⟩

theorem auxOf_counter_inj (c c' : Nat)
    (e : Sig.Bip340.auxOf (.counter c) = Sig.Bip340.auxOf (.counter c')) : c % 2 ^ 64 = c' % 2 ^ 64 := by
  simp only [Sig.Bip340.auxOf] at e
  have e1 := (List.append_inj e (by rw [beN_length, beN_length])).1
  have := congrArg unbe e1
  rw [unbe_beN, unbe_beN] at this
  exact this

end Mps.Nonce
