import Mps.Paillier
import Mathlib.Data.Nat.ModEq
import Mathlib.Data.Int.ModEq
import Mathlib.Tactic.Ring
import Mathlib.Tactic.LinearCombination
/-
  The modular primitives of `Mps.Paillier` (square-and-multiply, extended Euclid, modular inverse, the
  reduced add/sub/mul) and the CRT exponentiation of `arith.Modulus`.
  `Modulus.Computes M n` ("`M.exp` is exponentiation modulo `n`") holds of both constructions of a
  `Modulus`; everything later is stated for a modulus that computes, not for a code path.
-/
namespace Mps.Paillier

theorem powMod_eq (b e m : Nat) : powMod b e m = b ^ e % m := by
  induction e using Nat.strongRecOn with
  | _ e ih =>
    rw [powMod]
    split
    · next h => rw [h, pow_zero]
    · next h =>
      have hs : powMod b (e / 2) m * powMod b (e / 2) m % m = b ^ (2 * (e / 2)) % m := by
        rw [ih (e / 2) (by omega), ← Nat.mul_mod, ← pow_add, two_mul]
      simp only [hs]
      conv_rhs => rw [← Nat.div_add_mod e 2, pow_add]
      split
      · next h1 => rw [h1, pow_one, ← Nat.mul_mod]
      · next h0 => rw [Nat.mod_two_ne_one.mp h0, pow_zero, mul_one]

theorem powMod_lt (b e m : Nat) (hm : 0 < m) : powMod b e m < m := by
  rw [powMod_eq]; exact Nat.mod_lt _ hm

theorem powMod_modEq (b e m : Nat) : powMod b e m ≡ b ^ e [MOD m] := by
  rw [powMod_eq]; exact Nat.mod_modEq _ _

theorem egcd_spec (a b : Nat) :
    (egcd a b).1 = Nat.gcd a b ∧
    (a : ℤ) * (egcd a b).2.1 + (b : ℤ) * (egcd a b).2.2 = (Nat.gcd a b : ℤ) := by
  induction a using Nat.strongRecOn generalizing b with
  | _ a ih =>
    rw [egcd]
    split
    · next h => subst h; simp
    · next h =>
      have hlt : b % a < a := Nat.mod_lt _ (Nat.pos_of_ne_zero h)
      obtain ⟨h1, h2⟩ := ih (b % a) hlt a
      have hg : Nat.gcd a b = Nat.gcd (b % a) a := Nat.gcd_rec a b
      refine ⟨by simp only [h1, hg], ?_⟩
      have hb : (b : ℤ) = (a : ℤ) * ((b / a : ℕ) : ℤ) + ((b % a : ℕ) : ℤ) := by
        exact_mod_cast (Nat.div_add_mod b a).symm
      rw [hg]
      linear_combination h2 + (egcd (b % a) a).2.1 * hb

theorem modInv_lt (a m : Nat) (hm : 0 < m) : modInv a m < m := by
  unfold modInv
  have hm' : (0 : ℤ) < m := by exact_mod_cast hm
  have h1 := Int.emod_lt_of_pos (egcd (a % m) m).2.1 hm'
  omega

theorem mul_modInv_modEq_gcd (a m : Nat) (hm : 0 < m) : a * modInv a m ≡ Nat.gcd a m [MOD m] := by
  have hm' : (m : ℤ) ≠ 0 := by exact_mod_cast hm.ne'
  rw [← Int.natCast_modEq_iff, Nat.cast_mul, modInv, Int.toNat_of_nonneg (Int.emod_nonneg _ hm')]
  calc (a : ℤ) * ((egcd (a % m) m).2.1 % m) ≡ ((a % m : ℕ) : ℤ) * (egcd (a % m) m).2.1 [ZMOD m] := by
        push_cast; exact (Int.mod_modEq _ _).symm.mul (Int.mod_modEq _ _)
    _ ≡ (Nat.gcd (a % m) m : ℤ) [ZMOD m] := Int.modEq_iff_add_fac.mpr ⟨_, (egcd_spec (a % m) m).2.symm⟩
    _ = (Nat.gcd a m : ℤ) := by rw [← Nat.gcd_rec, Nat.gcd_comm]

theorem mul_modInv (a m : Nat) (hm : 0 < m) (h : Nat.Coprime a m) : a * modInv a m ≡ 1 [MOD m] := by
  have := mul_modInv_modEq_gcd a m hm
  rwa [h] at this

theorem modInv_unique (a m y : Nat) (hm : 0 < m) (hy : a * y ≡ 1 [MOD m]) : modInv a m = y % m := by
  have hc : Nat.Coprime a m := Nat.coprime_of_mul_modEq_one y hy
  rw [← Nat.mod_eq_of_lt (modInv_lt a m hm)]
  exact Nat.ModEq.cancel_left_of_coprime hc.symm ((mul_modInv a m hm hc).trans hy.symm)

theorem modInv_mod (a m : Nat) : modInv (a % m) m = modInv a m := by
  unfold modInv; rw [Nat.mod_mod]

theorem modMul_eq (x y m : Nat) : modMul x y m = x * y % m := by
  unfold modMul; exact (Nat.mul_mod x y m).symm

theorem modAdd_eq (x y m : Nat) : modAdd x y m = (x + y) % m := by
  unfold modAdd; exact (Nat.add_mod x y m).symm

theorem modSub_add (x y m : Nat) (hm : 0 < m) : modSub x y m + y ≡ x [MOD m] := by
  unfold modSub
  have hy : y % m < m := Nat.mod_lt _ hm
  have h1 : (x % m + (m - y % m)) % m + y ≡ (x % m + (m - y % m)) + y % m [MOD m] :=
    Nat.ModEq.add (Nat.mod_modEq _ _) (Nat.mod_modEq _ _).symm
  have h2 : (x % m + (m - y % m)) + y % m = x % m + m := by omega
  rw [h2] at h1
  exact h1.trans ((Nat.add_modulus_modEq_iff).mpr (Nat.mod_modEq _ _))

/-- Garner's recombination as `arith.Modulus.Exp` does it -/
theorem garner {P Q : ℕ} (hP : 0 < P) (hQ : 0 < Q) (hc : Nat.Coprime P Q) (a b : ℕ) :
    modSub b a (P * Q) * modInv P Q % (P * Q) * P % (P * Q) + a ≡ a [MOD P] ∧
    modSub b a (P * Q) * modInv P Q % (P * Q) * P % (P * Q) + a ≡ b [MOD Q] := by
  generalize hd : modSub b a (P * Q) = d
  constructor
  · have : d * modInv P Q % (P * Q) * P % (P * Q) ≡ 0 [MOD P] :=
      ((Nat.mod_modEq _ _).of_mul_right Q).trans (Nat.modEq_zero_iff_dvd.mpr (Dvd.intro_left _ rfl))
    simpa using this.add_right a
  · have h1 : d * modInv P Q % (P * Q) * P % (P * Q) ≡ d * (P * modInv P Q) [MOD Q] :=
      calc _ ≡ d * modInv P Q % (P * Q) * P [MOD Q] := (Nat.mod_modEq _ _).of_mul_left P
        _ ≡ d * modInv P Q * P [MOD Q] := ((Nat.mod_modEq _ _).of_mul_left P).mul_right _
        _ = d * (P * modInv P Q) := by ring
    have h2 : d * (P * modInv P Q) ≡ d [MOD Q] := by simpa using (mul_modInv P Q hQ hc).mul_left d
    exact ((h1.trans h2).add_right a).trans
      (hd ▸ (modSub_add b a (P * Q) (Nat.mul_pos hP hQ)).of_mul_left P)

structure Modulus.Computes (M : Modulus) (n : ℕ) : Prop where
  n_eq : M.n = n
  exp_eq : ∀ x e, M.exp x e = x ^ e % n

theorem Modulus.computes_ofN (n : ℕ) : (Modulus.ofN n).Computes n :=
  ⟨rfl, fun x e => by simp [Modulus.exp, Modulus.ofN, powMod_eq]⟩

/-- C12 `crt_exp_eq`: the CRT path of `arith.Modulus.Exp` -/
theorem Modulus.computes_ofFactors {P Q : ℕ} (hP : 0 < P) (hQ : 0 < Q) (hc : Nat.Coprime P Q) :
    (Modulus.ofFactors P Q).Computes (P * Q) := by
  refine ⟨rfl, fun x e => ?_⟩
  obtain ⟨h1, h2⟩ := garner hP hQ hc (x ^ e % P) (x ^ e % Q)
  simp only [Modulus.exp, Modulus.ofFactors, if_true]
  rw [modAdd_eq, modMul_eq, modMul_eq, powMod_eq, powMod_eq]
  exact (Nat.modEq_and_modEq_iff_modEq_mul hc).mp
    ⟨h1.trans (Nat.mod_modEq _ _), h2.trans (Nat.mod_modEq _ _)⟩

/-- `ExpI(x, e) mod M` as both code paths compute it -/
def expIVal (M x : ℕ) (e : ℤ) : ℕ :=
  if e < 0 then modInv (x ^ e.natAbs % M) M else x ^ e.natAbs % M

theorem expIVal_lt (M x : ℕ) (e : ℤ) (hM : 0 < M) : expIVal M x e < M := by
  unfold expIVal; split
  · exact modInv_lt _ _ hM
  · exact Nat.mod_lt _ hM

theorem Modulus.Computes.expI_eq {M : Modulus} {n : ℕ} (h : M.Computes n) (x : ℕ) (e : ℤ) :
    M.expI x e = expIVal n x e := by
  rw [Modulus.expI, h.exp_eq, h.n_eq]; rfl

end Mps.Paillier
