import Mathlib.Algebra.Group.Nat.Defs
import MpsProofs.TypedEncode
import MpsProofs.Forall2
import Mps.ZK.Paillier
import Mps.ZK.Blum
/-
  Lemmas about the executable ZK model (M3): what the range predicates compute, what it takes for a
  transcribed verifier to accept, the plaintext reduction of zkdec / zkmul, and that what a `challenge()`
  hashes determines (context, statement, commitment). Mathlib is imported only for `Nat.instMonoid`, so that
  `2 ^ n` here is the same term as in the Mathlib-based modules that use these lemmas.
-/
namespace Mps.ZK

theorem bitLen_le_iff (n k : Nat) : bitLen n ≤ k ↔ n < 2 ^ k := by
  unfold bitLen
  split
  · next h => subst h; simp [Nat.two_pow_pos]
  · next h => rw [Nat.add_one_le_iff, Nat.log2_lt h]

theorem inBits_iff (bound : Nat) (z : Int) : inBits bound (some z) = true ↔ z.natAbs < 2 ^ bound := by
  simp [inBits, bitLen_le_iff]

theorem inBits_nil (bound : Nat) : inBits bound none = false := rfl

theorem inBits_true_iff (bound : Nat) (o : Option Int) :
    inBits bound o = true ↔ ∃ z, o = some z ∧ z.natAbs < 2 ^ bound := by
  cases o with
  | none => simp [inBits]
  | some z => simp [inBits_iff]

/-- peel the guards of a transcribed `Verify` once its range check is known to fail -/
macro "reject_by_range" hr:ident hacc:ident : tactic =>
  `(tactic| (simp only [$hr:ident, bind, Except.bind, pure, Except.pure, Bool.not_false, ite_true,
               Bool.and_false, Bool.false_and] at $hacc:ident
             repeat (split at $hacc:ident; · simp at $hacc:ident)
             try (simp at $hacc:ident)))

/-! A transcribed `Verify` is a cascade of `if c then return false`, of steps that may panic, and a final value.
With `accept_guard`, `accept_bind` and `accept_pure`, `simp only` turns `X.verify … = .ok true` into the
conjunction of its guards in program order, the range check among them (`C10.out_of_range_rejected`). -/

theorem accept_guard {c : Bool} {k : Verdict} :
    (if c = true then pure false else k) = .ok true ↔ c = false ∧ k = .ok true := by
  cases c <;> simp [pure, Except.pure]

theorem accept_bind {α : Type} {m : Except String α} {k : α → Verdict} :
    (m >>= k) = .ok true ↔ ∃ a, m = .ok a ∧ k a = .ok true := by
  cases m <;> simp [bind, Except.bind]

theorem accept_pure {b : Bool} : (pure b : Verdict) = .ok true ↔ b = true := by
  simp [pure, Except.pure]

theorem intMod_cast (z : Int) (n : Nat) (hn : 0 < n) : ((intMod z n : Nat) : Int) = z % (n : Int) :=
  Int.toNat_of_nonneg (Int.emod_nonneg _ (by omega))

theorem intMod_lt (z : Int) (n : Nat) (hn : 0 < n) : intMod z n < n := by
  have hc := intMod_cast z n hn
  have h1 : z % (n : Int) < n := Int.emod_lt_of_pos _ (by omega)
  omega

/-- the `% n` in `symMod` only serves the residue 0 -/
theorem symMod_eq (z : Int) (n : Nat) (hn : 0 < n) :
    symMod z n = if n < 2 * intMod z n then z % n - n else z % n := by
  rw [← intMod_cast z n hn]
  unfold symMod
  have hr := intMod_lt z n hn
  generalize intMod z n = r at hr ⊢
  by_cases h0 : r = 0
  · subst h0; simp
  · simp only [Nat.mod_eq_of_lt (show n - r < n by omega)]
    split <;> split <;> omega

theorem symMod_natAbs_le (z : Int) (n : Nat) (hn : 0 < n) : (symMod z n).natAbs ≤ n / 2 := by
  have hr := intMod_lt z n hn
  have hc := intMod_cast z n hn
  rw [symMod_eq z n hn]
  split <;> omega

theorem symMod_congr (z : Int) (n : Nat) (hn : 0 < n) : (symMod z n - z) % (n : Int) = 0 := by
  rw [symMod_eq z n hn]
  split <;> simp [Int.sub_emod]

/-- zkdec and zkmul reduce their response into this range (`symMod_natAbs_le`) -/
theorem encWithNonce_ok_iff (n : Nat) (m : Int) (nonce : Nat) :
    (∃ c, encWithNonce n m nonce = .ok c) ↔ m.natAbs ≤ n / 2 := by
  unfold encWithNonce
  split <;> simp <;> omega

def HV.WF : HV → Prop
  | .tv v => v.WF ∧ v.fixed = true
  | .nat none => True
  | .nat (some b) => b.length < 2 ^ 64
  | .modulus n => (natBytes n).length < 2 ^ 64

theorem natDomain_ne_modulusDomain : natDomain ≠ modulusDomain := by decide

theorem hvDomain_length : natDomain.length < 2 ^ 64 ∧ modulusDomain.length < 2 ^ 64 := by decide

theorem tv_dom_ne (v : TVal) (hf : v.fixed = true) (i : Item) (e : encode v = some i) :
    i.dom ≠ natDomain ∧ i.dom ≠ modulusDomain := by
  have hm := encode_dom_mem v hf i e
  have hn : natDomain ∉ fixedTags ∧ modulusDomain ∉ fixedTags := by decide +kernel
  exact ⟨fun h => hn.1 (h ▸ hm), fun h => hn.2 (h ▸ hm)⟩

/-- the three kinds of hashed value write disjoint sets of domain tags -/
theorem HV.encode_kind {a : HV} (ha : a.WF) {i : Item} (e : a.encode = some i) :
    match a with
    | .tv v => Mps.encode v = some i ∧ i.dom ≠ natDomain ∧ i.dom ≠ modulusDomain
    | .nat b => b = some i.data ∧ i.dom = natDomain
    | .modulus n => natBytes n = i.data ∧ i.dom = modulusDomain := by
  rcases a with v | (_ | b) | n
  · exact ⟨e, tv_dom_ne v ha.2 i e⟩
  · cases e
  · cases e; exact ⟨rfl, rfl⟩
  · cases e; exact ⟨rfl, rfl⟩

theorem hv_encode_injective (a b : HV) (ha : a.WF) (hb : b.WF) (i : Item)
    (ea : a.encode = some i) (eb : b.encode = some i) : a = b := by
  have ka := HV.encode_kind ha ea
  have kb := HV.encode_kind hb eb
  rcases a with v | c | n <;> rcases b with w | d | m <;> simp only at ka kb
  · rw [Mps.encode_injective v w ha.1 hb.1 ha.2 hb.2 i ka.1 kb.1]
  · exact absurd kb.2 ka.2.1
  · exact absurd kb.2 ka.2.2
  · exact absurd ka.2 kb.2.1
  · rw [ka.1, kb.1]
  · exact absurd (ka.2.symm.trans kb.2) natDomain_ne_modulusDomain
  · exact absurd ka.2 kb.2.2
  · exact absurd (kb.2.symm.trans ka.2) natDomain_ne_modulusDomain
  · rw [natBytes_inj n m (ka.1.trans kb.1.symm)]

theorem hv_encode_wf (a : HV) (ha : a.WF) (i : Item) (ea : a.encode = some i) : i.WF := by
  have k := HV.encode_kind ha ea
  rcases a with v | c | n <;> simp only at k
  · exact Mps.encode_wf v ha.1 i k.1
  · obtain ⟨rfl, k⟩ := k; exact ⟨k ▸ hvDomain_length.1, ha⟩
  · exact ⟨k.2 ▸ hvDomain_length.2, k.1 ▸ ha⟩

def encodeHVs : List HV → Option (List Item)
  | [] => some []
  | v :: vs =>
    match v.encode, encodeHVs vs with
    | some i, some is => some (i :: is)
    | _, _ => none

theorem encodeHVs_eq_some (vs : List HV) (is : List Item) :
    encodeHVs vs = some is ↔ List.Forall₂ (fun v i => v.encode = some i) vs is :=
  eq_some_iff_forall₂ (encs := encodeHVs) rfl
    (fun v vs => by rw [encodeHVs]; cases v.encode <;> cases encodeHVs vs <;> rfl) vs is

theorem HV.write_item_iff (v : HV) (i : Item) : v.write = .item i ↔ v.encode = some i := by
  rcases v with v | (_ | b) | n <;>
    simp only [HV.write, HV.encode, reduceCtorEq, WriteRes.item.injEq, Option.some.injEq]
  cases Mps.encode v <;> simp

theorem encodeHVs_of_writeAll (vs : List HV) (is : List Item) (h : writeAll vs = .ok (some is)) : encodeHVs vs = some is := by
  induction vs generalizing is with
  | nil => cases h; rfl
  | cons v vs ih =>
    simp only [writeAll] at h
    split at h
    · cases h
    · cases h
    · next i hv =>
      split at h
      · cases h
      · cases h
      · next is' hr =>
        cases h
        rw [encodeHVs, (HV.write_item_iff v i).mp hv, ih is' hr]

/-- what a `challenge()` hashes determines the context items and the values written on top of them, or the two
    inputs are a collision of `H` -/
theorem challenge_input_injective (H : Bytes → Bytes) (pre pre' : List Item) (vs vs' : List HV)
    (is is' : List Item) (hpre : ∀ i ∈ pre, i.WF) (hpre' : ∀ i ∈ pre', i.WF)
    (hv : ∀ v ∈ vs, v.WF) (hv' : ∀ v ∈ vs', v.WF) (hlen : vs.length = vs'.length)
    (e : encodeHVs vs = some is) (e' : encodeHVs vs' = some is')
    (h : H (transcript (pre ++ is)) = H (transcript (pre' ++ is'))) :
    (pre = pre' ∧ vs = vs') ∨
    (transcript (pre ++ is) ≠ transcript (pre' ++ is') ∧ H (transcript (pre ++ is)) = H (transcript (pre' ++ is'))) := by
  rw [encodeHVs_eq_some] at e e'
  have wf : ∀ {pre vs is}, (∀ i ∈ pre, i.WF) → (∀ v ∈ vs, HV.WF v) →
      List.Forall₂ (fun v i => v.encode = some i) vs is → ∀ i ∈ pre ++ is, i.WF :=
    fun hpre hv e i hi => (List.mem_append.mp hi).elim (hpre i) (forall₂_right e hv hv_encode_wf i)
  refine (hash_transcript_inj H _ _ (wf hpre hv e) (wf hpre' hv' e') h).imp_left fun heq => ?_
  -- the two lists of values are equally long, so the item lists split at the same place
  obtain ⟨h1, h2⟩ := List.append_inj' heq (by rw [← forall₂_length e, ← forall₂_length e', hlen])
  exact ⟨h1, forall₂_inj e (h2 ▸ e') hv hv' hv_encode_injective⟩

/-- the field a `public.F` / `commitment.F` selector picks -/
def pick (pub prf : Rec) (s : Sel) : Val := if s.1 == "public" then pub.get s.2 else prf.get s.2

def structOnly (sel : List Sel) : Bool := sel.all fun s => s.1 == "public" || s.1 == "commitment"

theorem selectVals_eq_map (sel : List Sel) (pub prf : Rec) (param : String → List Val)
    (h : structOnly sel = true) : selectVals sel pub prf param = sel.map (pick pub prf) := by
  induction sel with
  | nil => rfl
  | cons s ss ih =>
    rw [structOnly, List.all_cons, Bool.and_eq_true] at h
    rw [List.map_cons, ← ih h.2, selectVals, List.flatMap_cons, pick]
    split
    · rfl
    · next hp => rw [if_pos (by simpa [hp] using h.1)]; rfl

/-- the non-nil values of a Go type that `hash.WriteAny` writes -/
def Val.hashed : Val → Bool
  | .nat (some _) => true
  | .big (some _) => true
  | .pt (some _) => true
  | .sc (some _) => true
  | .ct (some _) => true
  | .pk _ => true
  | .ped _ => true
  | .modulus _ => true
  | .elg _ _ => true
  | _ => false

def ofHV : HV → Option Val
  | .nat b => some (.nat b)
  | .modulus n => some (.modulus n)
  | .tv (.bigint neg a) => some (.big (some (if neg then -(a : Int) else (a : Int))))
  | .tv (.point b) => some (.pt (some b))
  | .tv (.scalar b) => some (.sc (some b))
  | .tv (.ct c) => some (.ct (some c))
  | .tv (.pk n) => some (.pk n)
  | .tv (.ped n s t) => some (.ped ⟨n, s, t⟩)
  | .tv (.elg l m) => some (.elg l m)
  | _ => none

theorem ofHV_toHV (v : Val) (hv : v.hashed = true) : ofHV v.toHV = some v := by
  cases v with
  | int _ | bool _ | list _ | missing => cases hv
  | pk _ | ped _ | modulus _ | elg _ _ => rfl
  | nat b | pt b | sc b | ct b => cases b <;> first | rfl | cases hv
  | big z =>
    cases z with
    | none => cases hv
    | some z =>
      -- written as sign and magnitude
      simp only [Val.toHV, ofHV, Option.some.injEq, Val.big.injEq]
      split <;> rename_i h <;> simp only [decide_eq_true_eq] at h <;> omega

theorem toHV_injective (v w : Val) (hv : v.hashed = true) (hw : w.hashed = true) (h : v.toHV = w.toHV) : v = w := by
  have := ofHV_toHV v hv
  rw [h, ofHV_toHV w hw] at this
  exact (Option.some.inj this).symm

end Mps.ZK
