import MpsProofs.Handler
import Mps.Drv.Handler
/-
  The driver's `acceptO` (Mps.Drv.Handler) takes the order in which the queued messages of a newly entered round are
  replayed (Go ranges over a map there); at the id order it is the model's `accept`. So the alternatives the driver
  admits differ from the proven model in that order only.
-/
namespace Mps.Drv.Handler
open Mps Mps.Handler

theorem replayQueuedO_sc (ids : List Bytes) (st : State) (h : st.sc.ids = ids) : replayQueuedO ids st = replayQueued st := by
  unfold replayQueuedO replayQueued
  rw [h]

theorem finalizeStepO_ids (H : Bytes → Bytes) (s : State) : finalizeStepO H s.sc.ids s = finalizeStep H s := by
  unfold finalizeStepO finalizeStep
  simp only
  cases hpf : protoFinalize (fillBh H s) with
  | round i nx =>
    have hsc : (enter (sendAll (fillBh H s) (emitFor (fillBh H s) nx)) i nx).sc = s.sc := by
      rw [sendAll_with, fillBh_eq]; rfl
    dsimp only
    rw [replayQueuedO_sc _ _ (congrArg Script.ids hsc)]
    rfl
  | _ => rfl

theorem finalizeO_ids (H : Bytes → Bytes) : ∀ (fuel : Nat) (s : State), finalizeO H s.sc.ids fuel s = finalize H fuel s
  | 0, s => rfl
  | fuel + 1, s => by
    unfold finalizeO finalize
    rw [finalizeStepO_ids]
    cases hs : finalizeStep H s with
    | halt s' => rfl
    | more s' =>
      have hsc : s'.sc = s.sc := by
        have := finalizeStep_pres (sc_preserved H s.sc) s rfl
        rwa [hs] at this
      rw [← hsc]
      exact finalizeO_ids H fuel s'

theorem acceptO_ids (H : Bytes → Bytes) (s : State) (m : Msg) : acceptO H s.sc.ids s m = accept H s m := by
  unfold acceptO accept
  split
  · rfl
  · split
    · rfl
    · unfold acceptStoredO acceptStored
      split
      · rfl
      · cases hv : (if m.bcast then verifyBroadcastMessage (store s m) m else verifyMessage (store s m) m) with
        | bad => rfl
        | echo => rfl
        | ok s2 =>
          have hsc : s2.sc = s.sc := ((verified_sameCore hv).1.symm).trans (store_sc s m)
          dsimp only
          rw [← hsc]
          exact finalizeO_ids H _ s2

end Mps.Drv.Handler
