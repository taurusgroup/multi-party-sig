import MpsProofs.OTBits
import MpsProofs.OTClmul
import Mps.OT.Extend
/-
  correlated.go / extended.go: the correlated-OT relation for every row, the extended-OT pads
  agree with the receiver's choice, and an honest receiver always passes the sender's (KOS-style)
  consistency check — for ANY PRG / hash outputs.
-/
namespace Mps.OT

variable {F : Type}

theorem forRange_succ {α : Type} (n : Nat) (init : α) (body : α → Nat → α) :
    forRange (n + 1) init body = body (forRange n init body) n := by
  simp [forRange, List.range_succ]

theorem forRange_sum {α M : Type} [AddCommMonoid M] (φ : α → M) (body : α → Nat → α) (g : Nat → M)
    (hstep : ∀ acc i, φ (body acc i) = φ acc + g i) (init : α) (n : Nat) :
    φ (forRange n init body) = φ init + ∑ i ∈ Finset.range n, g i := by
  induction n with
  | zero => simp [forRange]
  | succ n ih => rw [forRange_succ, hstep, ih, Finset.sum_range_succ, add_assoc]

/-- column `k` of the sender's matrix: Q[k] = T0[k] ⊕ (Δ_k · x) -/
theorem correSend_col (h : OTHash F) (ss : CorreSendSetup) (rs : CorreRecvSetup) (hrel : SetupRel ss rs)
    (l x k : Nat) (hk : k < otParam) :
    h.prg (ss.kDelta.getD k 0) l ^^^ maskBit (bitAt k ss.delta) ((correReceive h rs l x).1.getD k 0)
      = h.prg (rs.k0.getD k 0) l ^^^ maskBit (ss.delta.testBit k) x := by
  unfold correReceive
  simp only [getD_map_range _ _ _ _ hk, hrel.2 k hk, bitAt]
  cases ss.delta.testBit k
  · simp
  · simp only [maskBit_true, if_true]
    rw [Nat.xor_comm (h.prg (rs.k0.getD k 0) l), Nat.xor_assoc, xor_cancel_left]

/-- `CorreOTSend` / `CorreOTReceive`: q_j = t_j ⊕ (x_j · Δ) for every row `j` of the batch -/
theorem corre_relation (h : OTHash F) (ss : CorreSendSetup) (rs : CorreRecvSetup) (hrel : SetupRel ss rs)
    (l x j : Nat) (hj : j < l) :
    (correSend h ss l (correReceive h rs l x).1).getD j 0
      = (correReceive h rs l x).2.getD j 0 ^^^ maskBit (x.testBit j) ss.delta := by
  unfold correSend
  rw [show (correReceive h rs l x).2
      = transposeBits l ((List.range otParam).map fun i => h.prg (rs.k0.getD i 0) l) from rfl,
    transposeBits_getD _ _ _ hj, transposeBits_getD _ _ _ hj]
  exact transposeRow_xor_mask _ _ _ _ _ hrel.1 fun k hk => by
    rw [getD_map_range _ _ _ _ hk, getD_map_range _ _ _ _ hk, correSend_col h ss rs hrel l x k hk]

theorem correSend_getD_lt (h : OTHash F) (ss : CorreSendSetup) (l : Nat) (U : List Nat) (j : Nat) :
    (correSend h ss l U).getD j 0 < 2 ^ otParam := transposeBits_getD_lt _ _ j

theorem correReceive_getD_lt (h : OTHash F) (rs : CorreRecvSetup) (l x : Nat) (j : Nat) :
    (correReceive h rs l x).2.getD j 0 < 2 ^ otParam := transposeBits_getD_lt _ _ j

theorem inflated_testBit_lt (l choices extra i : Nat) (hi : i < l) :
    (inflatedChoices l choices extra).testBit i = choices.testBit i :=
  testBit_or_shiftLeft_lt choices extra hi

/-- `extReceive` with the pattern match on `correReceive` replaced by projections -/
theorem extReceive_eq (h : OTHash F) (rs : CorreRecvSetup) (l choices extra : Nat) :
    extReceive h rs l choices extra =
      ({ U := (correReceive h rs (inflate l) (inflatedChoices l choices extra)).1
         X := forRange (inflate l) 0 fun acc i => acc ^^^ maskBit (bitAt i (inflatedChoices l choices extra))
          ((h.chis (correReceive h rs (inflate l) (inflatedChoices l choices extra)).1 (inflate l)).getD i 0)
         T := forRange (inflate l) 0 fun acc i => accumulate acc
          ((correReceive h rs (inflate l) (inflatedChoices l choices extra)).2.getD i 0)
          ((h.chis (correReceive h rs (inflate l) (inflatedChoices l choices extra)).1 (inflate l)).getD i 0) },
       (List.range l).map fun i =>
          h.pad i ((correReceive h rs (inflate l) (inflatedChoices l choices extra)).2.getD i 0)) := by
  simp only [extReceive]

/-- the pads the sender would compute (after its check) -/
def senderPads (h : OTHash F) (ss : CorreSendSetup) (l : Nat) (U : List Nat) : List Nat × List Nat :=
  let Q := correSend h ss (inflate l) U
  ((List.range l).map fun i => h.pad i (Q.getD i 0),
   (List.range l).map fun i => h.pad i (Q.getD i 0 ^^^ ss.delta))

/-- The message is given by its fields: projections of a large structure literal make the unifier unfold
    it again and again. -/
theorem extSend_of_check (h : OTHash F) (ss : CorreSendSetup) (l : Nat) (U : List Nat) (X T : Nat)
    (hq : accumulate (forRange (inflate l) 0 fun acc i => accumulate acc
        ((correSend h ss (inflate l) U).getD i 0) ((h.chis U (inflate l)).getD i 0)) X ss.delta = T) :
    extSend h ss l ⟨U, X, T⟩ = some (senderPads h ss l U) := by
  unfold extSend senderPads
  rw [if_neg (not_not.mpr hq)]

/-- the receiver's `VChoice[i]` is the sender's `V1[i]` if choice bit `i` is set, else `V0[i]` -/
theorem ext_ot_choice (h : OTHash F) (ss : CorreSendSetup) (rs : CorreRecvSetup) (hrel : SetupRel ss rs)
    (l choices extra i : Nat) (hi : i < l) :
    let r := extReceive h rs l choices extra
    let sp := senderPads h ss l r.1.U
    r.2.getD i 0 = if choices.testBit i then sp.2.getD i 0 else sp.1.getD i 0 := by
  simp only [extReceive_eq, senderPads, getD_map_range _ _ _ _ hi]
  rw [corre_relation h ss rs hrel _ _ i (by unfold inflate; omega), inflated_testBit_lt _ _ _ _ hi]
  cases choices.testBit i
  · simp
  · simp only [maskBit_true, if_true]
    rw [xor_cancel_right]

theorem toPoly_accumulate (f a b : Nat) (ha : a < 2 ^ 128) (hb : b < 2 ^ 128) :
    toPoly (accumulate f a b) = toPoly f + toPoly a * toPoly b := by
  unfold accumulate
  rw [toPoly_xor, clmulCoded_poly a b ha hb]

theorem toPoly_accFold (R C : Nat → Nat) (n : Nat) (hR : ∀ i, R i < 2 ^ 128) (hC : ∀ i, C i < 2 ^ 128) :
    toPoly (forRange n 0 fun acc i => accumulate acc (R i) (C i))
      = ∑ i ∈ Finset.range n, toPoly (R i) * toPoly (C i) := by
  rw [forRange_sum toPoly _ (fun i => toPoly (R i) * toPoly (C i))
    (fun acc i => toPoly_accumulate acc _ _ (hR i) (hC i)), toPoly_zero, zero_add]

theorem toPoly_selFold (x : Nat) (C : Nat → Nat) (n : Nat) :
    toPoly (forRange n 0 fun acc i => acc ^^^ maskBit (bitAt i x) (C i))
      = ∑ i ∈ Finset.range n, if x.testBit i then toPoly (C i) else 0 := by
  rw [forRange_sum toPoly _ (fun i => if x.testBit i then toPoly (C i) else 0)
    (fun acc i => by rw [toPoly_xor, toPoly_maskBit]; rfl), toPoly_zero, zero_add]

theorem selFold_lt (x : Nat) (C : Nat → Nat) (n : Nat) {k : Nat} (hC : ∀ i, C i < 2 ^ k) :
    (forRange n 0 fun acc i => acc ^^^ maskBit (bitAt i x) (C i)) < 2 ^ k := by
  induction n with
  | zero => simp [forRange]
  | succ n ih =>
    rw [forRange_succ]
    exact Nat.xor_lt_two_pow ih (maskBit_lt _ _ _ (hC n))

/-- the algebra of the KOS check: rows `qᵢ = tᵢ + xᵢ·Δ` give `Σ qᵢχᵢ + (Σ xᵢχᵢ)·Δ = Σ tᵢχᵢ` -/
theorem kos_identity {R : Type} [CommRing R] (h2 : ∀ r : R, r + r = 0) (t chi : Nat → R) (x : Nat → Bool)
    (d : R) (n : Nat) :
    ∑ i ∈ Finset.range n, (t i + if x i then d else 0) * chi i + (∑ i ∈ Finset.range n, if x i then chi i else 0) * d
      = ∑ i ∈ Finset.range n, t i * chi i := by
  rw [Finset.sum_mul, ← Finset.sum_add_distrib]
  refine Finset.sum_congr rfl fun i _ => ?_
  cases x i
  · simp
  · rw [if_pos rfl, if_pos rfl, add_mul, mul_comm d, add_assoc, ← mul_add, h2, mul_zero, add_zero]

/-- `kos_identity` on bit vectors, with the loops as extended.go runs them -/
theorem kos_check (Q T C : Nat → Nat) (x delta n : Nat) (hQ : ∀ i, Q i < 2 ^ 128) (hT : ∀ i, T i < 2 ^ 128)
    (hC : ∀ i, C i < 2 ^ 128) (hd : delta < 2 ^ 128)
    (hrow : ∀ i, i < n → Q i = T i ^^^ maskBit (x.testBit i) delta) :
    accumulate (forRange n 0 fun acc i => accumulate acc (Q i) (C i))
        (forRange n 0 fun acc i => acc ^^^ maskBit (bitAt i x) (C i)) delta
      = forRange n 0 fun acc i => accumulate acc (T i) (C i) := by
  apply toPoly_inj
  rw [toPoly_accumulate _ _ _ (selFold_lt x C n hC) hd, toPoly_selFold, toPoly_accFold Q C n hQ hC,
    toPoly_accFold T C n hT hC,
    Finset.sum_congr rfl fun i hi => by rw [hrow i (Finset.mem_range.mp hi), toPoly_xor, toPoly_maskBit]]
  exact kos_identity CharTwo.add_self_eq_zero _ _ _ _ n

/-- the check weights are 128-bit blocks (they are read into `[params.OTBytes]byte`) -/
def ChiOK (h : OTHash F) : Prop := ∀ U n i, (h.chis U n).getD i 0 < 2 ^ otParam

/-- on the message of an honest `ExtendedOTReceive` the check `q == T` of `ExtendedOTSend` passes -/
theorem kos_check_complete (h : OTHash F) (hchi : ChiOK h) (ss : CorreSendSetup) (rs : CorreRecvSetup)
    (hrel : SetupRel ss rs) (l choices extra : Nat) :
    let r := extReceive h rs l choices extra
    extSend h ss l r.1 = some (senderPads h ss l r.1.U) := by
  simp only [extReceive_eq]
  exact extSend_of_check h ss l _ _ _ (kos_check _ _ _ _ _ _ (correSend_getD_lt h ss _ _)
    (correReceive_getD_lt h rs _ _) (hchi _ _) hrel.1 (corre_relation h ss rs hrel _ _))

end Mps.OT
