import Mathlib.Algebra.Polynomial.Coeff
import Mathlib.Data.ZMod.Basic
import Mathlib.Algebra.CharP.Two
import Mathlib.Tactic.Ring
import Mps.OT.Clmul
import MpsProofs.OTBits
/-
  extended.go `accumulate`: the coded double-lane shift-and-xor loop on four 64-bit words computes
  the product of its two 128-bit arguments in GF(2)[X] (never reduced). Bit vectors are mapped to
  polynomials over `ZMod 2`; bilinearity and commutativity are then ring facts.
-/
namespace Mps.OT
open Polynomial

noncomputable def toPoly (n : Nat) : (ZMod 2)[X] :=
  ∑ i ∈ Finset.range (n + 1), if n.testBit i then X ^ i else 0

theorem testBit_lt_succ (n k : Nat) (h : n.testBit k = true) : k < n + 1 :=
  Nat.lt_succ_of_lt (Nat.lt_of_lt_of_le Nat.lt_two_pow_self (Nat.ge_two_pow_of_testBit h))

theorem coeff_sum_bits (n m k : Nat) :
    (∑ i ∈ Finset.range m, if n.testBit i then (X : (ZMod 2)[X]) ^ i else 0).coeff k
      = if k < m ∧ n.testBit k then 1 else 0 := by
  have : ∀ i ∈ Finset.range m, (if n.testBit i then (X : (ZMod 2)[X]) ^ i else 0).coeff k
      = if k = i then (if n.testBit k then 1 else 0) else 0 := by
    intro i _
    by_cases e : k = i
    · subst e; cases n.testBit k <;> simp
    · cases n.testBit i <;> simp [e]
  rw [finsetSum_coeff, Finset.sum_congr rfl this, Finset.sum_ite_eq]
  by_cases h : k < m <;> simp [h]

theorem coeff_toPoly (n k : Nat) : (toPoly n).coeff k = if n.testBit k then 1 else 0 := by
  rw [toPoly, coeff_sum_bits]
  by_cases h : n.testBit k
  · simp [testBit_lt_succ n k h]
  · simp [h]

/-- any range that covers the set bits will do in the definition of `toPoly` -/
theorem toPoly_eq_sum (a n : Nat) (h : a < 2 ^ n) :
    toPoly a = ∑ i ∈ Finset.range n, if a.testBit i then X ^ i else 0 := by
  ext k
  rw [coeff_toPoly, coeff_sum_bits]
  by_cases hk : k < n
  · simp [hk]
  · simp [testBit_of_lt_two_pow h (Nat.le_of_not_lt hk)]

theorem toPoly_inj {a b : Nat} (h : toPoly a = toPoly b) : a = b := by
  apply Nat.eq_of_testBit_eq
  intro i
  have := congrArg (fun p => p.coeff i) h
  simp only [coeff_toPoly] at this
  by_cases ha : a.testBit i <;> by_cases hb : b.testBit i <;> simp_all

@[simp] theorem toPoly_zero : toPoly 0 = 0 := by
  ext k; simp [coeff_toPoly]

theorem toPoly_xor (a b : Nat) : toPoly (a ^^^ b) = toPoly a + toPoly b := by
  ext k
  rw [coeff_add, coeff_toPoly, coeff_toPoly, coeff_toPoly, Nat.testBit_xor]
  cases a.testBit k <;> cases b.testBit k <;> simp
  decide

theorem toPoly_shiftLeft (a k : Nat) : toPoly (a <<< k) = X ^ k * toPoly a := by
  ext d
  rw [coeff_X_pow_mul', coeff_toPoly, coeff_toPoly, Nat.testBit_shiftLeft]
  by_cases h : k ≤ d <;> simp [h]

theorem toPoly_maskBit (c : Bool) (v : Nat) : toPoly (maskBit c v) = if c then toPoly v else 0 := by
  cases c <;> simp

theorem toPoly_clSum (a b n : Nat) :
    toPoly (clSum a b n) = (∑ i ∈ Finset.range n, if a.testBit i then X ^ i else 0) * toPoly b := by
  induction n with
  | zero => simp [clSum]
  | succ n ih =>
    rw [clSum, toPoly_xor, ih, toPoly_maskBit, toPoly_shiftLeft, Finset.sum_range_succ, add_mul]
    cases a.testBit n <;> simp

/-- what the two lanes of the loop have accumulated after the bit indices `< n` -/
def lanes (a b n : Nat) : Nat := clSum a b n ^^^ clSum (a >>> 64) (b <<< 64) n

theorem shiftLeft_lt_of_lt (x m k : Nat) (h : x < 2 ^ m) : x <<< k < 2 ^ (m + k) := by
  rw [Nat.shiftLeft_eq, Nat.pow_add]
  exact Nat.mul_lt_mul_of_pos_right h (Nat.two_pow_pos _)

theorem clSum_lt (a b m : Nat) (hb : b < 2 ^ m) (n : Nat) : clSum a b n < 2 ^ (m + n) := by
  induction n with
  | zero => simp [clSum]
  | succ n ih =>
    rw [clSum]
    apply Nat.xor_lt_two_pow
    · exact lt_two_pow_of_le ih (by omega)
    · exact maskBit_lt _ _ _ (lt_two_pow_of_le (shiftLeft_lt_of_lt b m n hb) (by omega))

theorem lanes_succ (a b n : Nat) :
    lanes a b (n + 1) = lanes a b n ^^^
      ((maskBit (a.testBit n) b ^^^ maskBit (a.testBit (64 + n)) (b <<< 64)) <<< n) := by
  unfold lanes
  rw [clSum, clSum, Nat.shiftLeft_xor_distrib, maskBit_shiftLeft, maskBit_shiftLeft, Nat.testBit_shiftRight]
  ac_rfl

theorem mod_shiftLeft_mod (x n k : Nat) : ((x % 2 ^ k) <<< n) % 2 ^ k = (x <<< n) % 2 ^ k := by
  rw [Nat.shiftLeft_eq, Nat.shiftLeft_eq, Nat.mod_mul_mod]

theorem laneMask_lt (a b i : Nat) (hb : b < 2 ^ 128) :
    maskBit (a.testBit i) b ^^^ maskBit (a.testBit (64 + i)) (b <<< 64) < 2 ^ 256 :=
  Nat.xor_lt_two_pow
    (maskBit_lt _ _ _ (lt_two_pow_of_le hb (by decide)))
    (maskBit_lt _ _ _ (lt_two_pow_of_le (shiftLeft_lt_of_lt b 128 64 hb) (by decide)))

/-- Modulo `2 ^ 256` because `shl1` drops the top bit: truncating in every `shl1` is truncating once at
    the end. That nothing is lost at the end is `clSum_lt`, in `clmulCoded_eq_clmul`. -/
theorem accLoop_eq_mod (a b : Nat) (hb : b < 2 ^ 128) (n s : Nat) (hs : s < 2 ^ 256) :
    accLoop a b (n + 1) s = ((s <<< n) ^^^ lanes a b (n + 1)) % 2 ^ 256 := by
  induction n generalizing s with
  | zero =>
    rw [accLoop, accLoop, accStep, if_neg (by simp), lanes_succ, Nat.shiftLeft_zero, Nat.shiftLeft_zero,
      show lanes a b 0 = 0 by simp [lanes, clSum], Nat.zero_xor, Nat.xor_assoc,
      Nat.mod_eq_of_lt (Nat.xor_lt_two_pow hs (laneMask_lt a b 0 hb))]
  | succ n ih =>
    rw [accLoop, accStep, if_pos (Nat.succ_ne_zero n), shl1, ih _ (Nat.mod_lt _ (Nat.two_pow_pos _)),
      Nat.xor_mod_two_pow, mod_shiftLeft_mod, ← Nat.xor_mod_two_pow, ← Nat.shiftLeft_add, lanes_succ a b (n + 1),
      Nat.xor_assoc s, Nat.shiftLeft_xor_distrib]
    ac_rfl

theorem clSum_add (a b n m : Nat) : clSum a b (n + m) = clSum a b n ^^^ clSum (a >>> n) (b <<< n) m := by
  induction m with
  | zero => simp [clSum]
  | succ m ih =>
    rw [← Nat.add_assoc, clSum, clSum, ih, Nat.testBit_shiftRight, ← Nat.shiftLeft_add, Nat.xor_assoc]

/-- no bound on `a`: neither side reads its bits from 128 on -/
theorem clmulCoded_eq_clmul (a b : Nat) (hb : b < 2 ^ 128) : clmulCoded a b = clmul a b := by
  rw [clmulCoded, accLoop_eq_mod a b hb 63 0 (Nat.two_pow_pos _), Nat.zero_shiftLeft, Nat.zero_xor,
    show lanes a b 64 = clmul a b from (clSum_add a b 64 64).symm]
  exact Nat.mod_eq_of_lt (clSum_lt a b 128 hb 128)

theorem clmulCoded_poly (a b : Nat) (ha : a < 2 ^ 128) (hb : b < 2 ^ 128) :
    toPoly (clmulCoded a b) = toPoly a * toPoly b := by
  rw [clmulCoded_eq_clmul a b hb, clmul, toPoly_clSum, ← toPoly_eq_sum a 128 ha]

theorem clmul_bilinear (a a' b b' : Nat) (ha : a < 2 ^ 128) (ha' : a' < 2 ^ 128) (hb : b < 2 ^ 128)
    (hb' : b' < 2 ^ 128) :
    clmulCoded (a ^^^ a') b = clmulCoded a b ^^^ clmulCoded a' b ∧
    clmulCoded a (b ^^^ b') = clmulCoded a b ^^^ clmulCoded a b' ∧
    clmulCoded a b = clmulCoded b a := by
  refine ⟨?_, ?_, ?_⟩ <;> apply toPoly_inj
  · rw [toPoly_xor, clmulCoded_poly _ _ (Nat.xor_lt_two_pow ha ha') hb, clmulCoded_poly _ _ ha hb,
      clmulCoded_poly _ _ ha' hb, toPoly_xor]; ring
  · rw [toPoly_xor, clmulCoded_poly _ _ ha (Nat.xor_lt_two_pow hb hb'), clmulCoded_poly _ _ ha hb,
      clmulCoded_poly _ _ ha hb', toPoly_xor]; ring
  · rw [clmulCoded_poly _ _ ha hb, clmulCoded_poly _ _ hb ha]; ring

theorem clmulCoded_zero_left (b : Nat) (hb : b < 2 ^ 128) : clmulCoded 0 b = 0 := by
  apply toPoly_inj
  rw [clmulCoded_poly 0 b (Nat.two_pow_pos _) hb]; simp

-- `ha` is not needed: `clmulCoded_eq_clmul` holds for every `a`
set_option linter.unusedVariables false in
theorem clmulCoded_lt (a b : Nat) (ha : a < 2 ^ 128) (hb : b < 2 ^ 128) : clmulCoded a b < 2 ^ 256 := by
  rw [clmulCoded_eq_clmul a b hb]
  exact clSum_lt a b 128 hb 128

end Mps.OT
