import Mps.System2
/-
  The TwoPartyHandler model (Mps/TwoParty.lean), one iteration of `advance` at a time: `advanceStep` in pieces, the ways
  an iteration can end (`Step2.From`), and the lifecycle invariant `Good2` of every run. The import is for
  `System2.msgOf`, the name under which the session proofs know the message an iteration emits. Core-only.
-/
namespace Mps.TwoParty
open Mps.Handler

/-- the `verifyMessage` / `StoreMessage` part of one iteration of `advance`; `none` when it fails -/
def storeV (recv : Bool) (acc : Nat) (accuse : Bool) : Option Msg → Option (Nat × Bool)
  | none => some (acc, accuse)
  | some m =>
    if !recv then none
    else match m.dec with
      | none => none
      | some c =>
        if hasFlag c.f fFailVerify || hasFlag c.f fFailStore then none
        else some (acc + c.v, accuse || hasFlag c.f fAccuse)

def emit2 (sc : Script2) (r : Round2) : List Msg := if r.send then [System2.msgOf sc r.sendNum] else []

/-- the `Finalize` part of one iteration of `advance` -/
def finish (r : Round2) (s1 : State2) : Step2 :=
  if s1.sc.finErrAt != 0 && s1.sc.finErrAt == s1.cur then .halt (abort2 s1 (some .finalizeErr))
  else if s1.accuse then .halt (abort2 { s1 with ended := true, cur := 0 } (some .protoAbort))
  else match s1.sc.rounds[s1.idx + 1]? with
    | none => .halt (abort2 { s1 with ended := true, cur := 0, result := some s1.acc } none)
    | some nx => .more { s1 with out := s1.out ++ emit2 s1.sc r, idx := s1.idx + 1, cur := nx.num }

theorem advanceStep_eq (s : State2) :
    advanceStep s = if !canAdvance s then .halt s else
      match storeV (curRound s).recv s.acc s.accuse (lookup2 s.msgs s.cur) with
      | none => .halt (abort2 s (some .msgFail))
      | some p => finish (curRound s) { s with acc := p.1, accuse := p.2 } := by
  unfold advanceStep
  -- folded into `finish`, the `Finalize` part stays out of the case distinction over the store part
  show (if _ then _ else match (_ : Option State2) with | none => _ | some s1 => finish (curRound s) s1) = _
  unfold storeV
  -- each case is `rfl` once the `match` that binds the scrutinee of the next one is gone
  cases lookup2 s.msgs s.cur with
  | none => rfl
  | some m =>
    dsimp only
    cases (curRound s).recv with
    | false => rfl
    | true =>
      cases m.dec with
      | none => rfl
      | some c =>
        dsimp only
        cases hasFlag c.f fFailVerify || hasFlag c.f fFailStore <;> rfl

/-- The ways one iteration of `advance` can end, as which fields change, not when each case occurs: enough for what
    holds of every outcome; what depends on the input uses `advanceStep_eq`. -/
inductive Step2.From (s : State2) : Step2 → Prop
  | wait : canAdvance s = false → From s (.halt s)
  | abort (a : Nat) (b e : Bool) (c : Nat) (k : Err2) :
      From s (.halt (abort2 { s with acc := a, accuse := b, ended := e, cur := c } (some k)))
  | done (a : Nat) : s.sc.rounds[s.idx + 1]? = none →
      From s (.halt (abort2 { s with acc := a, accuse := false, ended := true, cur := 0, result := some a } none))
  | next (a : Nat) (nx : Round2) : s.sc.rounds[s.idx + 1]? = some nx →
      From s (.more { s with acc := a, accuse := false, out := s.out ++ emit2 s.sc (curRound s),
                             idx := s.idx + 1, cur := nx.num })

theorem advanceStep_from {s : State2} {t : Step2} (h : advanceStep s = t) : Step2.From s t := by
  subst h
  rw [advanceStep_eq]
  split
  · next h => exact .wait (by simpa using h)
  · cases storeV (curRound s).recv s.acc s.accuse (lookup2 s.msgs s.cur) with
    | none => exact .abort s.acc s.accuse s.ended s.cur .msgFail
    | some p =>
      obtain ⟨a, b⟩ := p
      simp only [finish]
      split
      · exact .abort a b s.ended s.cur .finalizeErr
      · split
        · exact .abort a b true 0 .protoAbort
        · next hb =>
          have hb : b = false := by simpa using hb
          subst hb
          split
          · next hn => exact .done a hn
          · next nx hn => exact .next a nx hn

theorem advanceStep_more {s s' : State2} (h : advanceStep s = .more s') :
    ∃ a nx, s.sc.rounds[s.idx + 1]? = some nx ∧
      s' = { s with acc := a, accuse := false, out := s.out ++ emit2 s.sc (curRound s), idx := s.idx + 1, cur := nx.num } := by
  cases advanceStep_from h with
  | next a nx hn => exact ⟨a, nx, hn, rfl⟩

theorem advanceStep_halt {s s' : State2} (h : advanceStep s = .halt s') :
    (s' = s ∧ canAdvance s = false) ∨ terminal2 s' = true := by
  cases advanceStep_from h with
  | wait hc => exact Or.inl ⟨rfl, hc⟩
  | abort => exact Or.inr rfl
  | done => exact Or.inr (by simp [terminal2, abort2])

theorem advanceStep_stuck (s : State2) (h : canAdvance s = false) : advanceStep s = .halt s := by
  rw [advanceStep_eq]; simp [h]

theorem advance_induct {P Q : State2 → Prop} (base : ∀ s, P s → Q s)
    (halt : ∀ s s', P s → advanceStep s = .halt s' → Q s')
    (more : ∀ s s', P s → advanceStep s = .more s' → P s') (fuel : Nat) (s : State2) (h : P s) :
    Q (advance fuel s) := by
  induction fuel generalizing s with
  | zero => exact base s h
  | succ fuel ih =>
    unfold advance
    split
    · next s' e => exact halt s s' h e
    · next s' e => exact ih s' (more s s' h e)

theorem accept2_cases (s : State2) (m : Msg) {motive : State2 → Prop}
    (ignored : motive s)
    (notice : terminal2 s = false → m.rnd = 0 → motive (abort2 s (some .peerAbort)))
    (stored : canAccept2 s m = true → terminal2 s = false → m.rnd ≠ 0 →
      motive (advance (s.sc.rounds.length + 1) { s with msgs := put2 s.msgs m.rnd m })) :
    motive (accept2 s m) := by
  unfold accept2
  split
  · exact ignored
  · next hc =>
    simp only [Bool.or_eq_true, Bool.not_eq_true', not_or, Bool.not_eq_false, Bool.not_eq_true] at hc
    split
    · next h0 => exact notice hc.2 (by simpa using h0)
    · next h0 => exact stored hc.1 hc.2 (by simpa using h0)

theorem accept2_terminal (s : State2) (m : Msg) (h : terminal2 s = true) : accept2 s m = s := by simp [accept2, h]
theorem stop2_terminal (s : State2) (h : terminal2 s = true) : stop2 s = s := by simp [stop2, h]

theorem apply2_terminal (s : State2) (c : Call2) (h : terminal2 s = true) : apply2 s c = s := by
  cases c
  case accept m => exact accept2_terminal s m h
  case stop => exact stop2_terminal s h
  all_goals rfl

def Live2 (s : State2) : Prop := s.closes = 0 ∧ s.err = none ∧ s.result = none
def Done2 (s : State2) : Prop :=
  s.closes = 1 ∧ ((s.err.isSome = true ∧ s.result = none) ∨ (s.err = none ∧ s.result.isSome = true))
def Good2 (s : State2) : Prop := Live2 s ∨ Done2 s

/-- the channel is closed exactly when the session has ended, and never with both an error and a result -/
theorem good2_iff (s : State2) :
    Good2 s ↔ s.closes = (if terminal2 s then 1 else 0) ∧ (s.err = none ∨ s.result = none) := by
  unfold Good2 Live2 Done2 terminal2
  cases s.err <;> cases s.result <;> simp

theorem abort2_done (s : State2) (k : Err2) (l : Live2 s) : Done2 (abort2 s (some k)) := by
  obtain ⟨h1, h2, h3⟩ := l
  simp [abort2, Done2, h1, h3]

theorem terminal2_of_done {s : State2} (d : Done2 s) : terminal2 s = true := by
  rcases d.2 with ⟨h, _⟩ | ⟨_, h⟩ <;> simp [terminal2, h]

theorem not_terminal2_of_live {s : State2} (l : Live2 s) : terminal2 s = false := by
  simp [terminal2, l.2.1, l.2.2]

theorem Good2.live {s : State2} (g : Good2 s) (h : terminal2 s = false) : Live2 s :=
  g.resolve_right fun d => Bool.false_ne_true (h.symm.trans (terminal2_of_done d))

theorem Good2.done {s : State2} (g : Good2 s) (h : terminal2 s = true) : Done2 s :=
  g.resolve_left fun l => Bool.false_ne_true ((not_terminal2_of_live l).symm.trans h)

theorem advance_good (fuel : Nat) (s : State2) (l : Live2 s) : Good2 (advance fuel s) := by
  refine advance_induct (P := Live2) (fun _ => Or.inl) (fun s s' l e => ?_) (fun s s' l e => ?_) fuel s l
  · cases advanceStep_from e with
    | wait => exact Or.inl l
    | abort => exact Or.inr (abort2_done _ _ l)
    | done => exact Or.inr ⟨by simp [abort2, l.1], Or.inr ⟨l.2.1, rfl⟩⟩
  · obtain ⟨a, nx, -, rfl⟩ := advanceStep_more e
    exact l

/-- the handler before the leader's first `advance` -/
def state0 (sc : Script2) : State2 :=
  { sc := sc, idx := 0, cur := (sc.rounds.getD 0 default).num, ended := false, msgs := [], err := none, result := none,
    out := [], closes := 0, acc := 0, accuse := false }

theorem init2_eq (sc : Script2) :
    init2 sc = if sc.leader then advance (sc.rounds.length + 1) (state0 sc) else state0 sc := rfl

theorem init2_good (sc : Script2) : Good2 (init2 sc) := by
  rw [init2_eq]
  split
  · exact advance_good _ _ ⟨rfl, rfl, rfl⟩
  · exact Or.inl ⟨rfl, rfl, rfl⟩

theorem accept2_good (s : State2) (m : Msg) (g : Good2 s) : Good2 (accept2 s m) := by
  apply accept2_cases s m
  case ignored => exact g
  case notice => exact fun ht _ => Or.inr (abort2_done _ _ (g.live ht))
  case stored => exact fun _ ht _ => advance_good _ _ (g.live ht)

theorem stop2_good (s : State2) (g : Good2 s) : Good2 (stop2 s) := by
  unfold stop2
  split
  · exact g
  · next hc => exact Or.inr (abort2_done _ _ (g.live (by simpa using hc)))

theorem apply2_good (s : State2) (c : Call2) (g : Good2 s) : Good2 (apply2 s c) := by
  cases c
  case accept m => exact accept2_good s m g
  case stop => exact stop2_good s g
  all_goals exact g

theorem run2_good (sc : Script2) (calls : List Call2) : Good2 (run2 sc calls) :=
  List.foldlRecOn (motive := Good2) calls apply2 (init2_good sc) fun s g c _ => apply2_good s c g

end Mps.TwoParty
