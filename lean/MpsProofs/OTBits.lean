import Mps.OT.Bits
import MpsProofs.Frame
/-
  Bit-level lemmas of the OT model (core-only): bit vectors as natural numbers (`maskBit`, xor,
  concatenation `a ||| b <<< l`), bits.go `bitAt`, correlated.go `transposeBits`, big-endian bytes.
-/
namespace Mps.OT

-- `getD_of_length_le` and `getD_map` are `List.getD_eq_default` and `List.getD_map` of
-- `Mathlib.Data.List.GetD`, which no OT module imports.
theorem getD_map_range {α : Type} (f : Nat → α) (n i : Nat) (d : α) (h : i < n) :
    ((List.range n).map f).getD i d = f i := by
  simp [h]

theorem getD_of_length_le {α : Type} (l : List α) (i : Nat) (d : α) (h : l.length ≤ i) : l.getD i d = d := by
  rw [List.getD_eq_getElem?_getD, List.getElem?_eq_none h]; rfl

theorem getD_map {α β : Type} (f : α → β) (l : List α) (i : Nat) (d : α) :
    (l.map f).getD i (f d) = f (l.getD i d) := by
  simp

theorem getD_concat {α : Type} (l : List α) (a d : α) (i : Nat) :
    (l ++ [a]).getD i d = if i < l.length then l.getD i d else if i = l.length then a else d := by
  by_cases h : i < l.length
  · simp [List.getElem?_append_left h, h]
  · by_cases e : i = l.length
    · subst e; simp
    · rw [if_neg h, if_neg e, getD_of_length_le _ _ _ (by simp; omega)]

theorem getD_set {α : Type} (l : List α) (i j : Nat) (a d : α) :
    (l.set i a).getD j d = if i = j ∧ i < l.length then a else l.getD j d := by
  by_cases e : i = j
  · subst e
    by_cases hl : i < l.length <;> simp [hl]
  · simp [e]

theorem apply_getD_set {α β : Type} (f : α → β) (l : List α) (i j : Nat) (a d : α)
    (hf : f a = f (l.getD i d)) : f ((l.set i a).getD j d) = f (l.getD j d) := by
  rw [getD_set]
  split
  · next e => rw [hf, e.1]
  · rfl

theorem lt_two_pow_of_le {x m n : Nat} (h : x < 2 ^ m) (hmn : m ≤ n) : x < 2 ^ n :=
  Nat.lt_of_lt_of_le h (Nat.pow_le_pow_right Nat.two_pos hmn)

theorem testBit_of_lt_two_pow {x m k : Nat} (h : x < 2 ^ m) (hk : m ≤ k) : x.testBit k = false :=
  Nat.testBit_lt_two_pow (lt_two_pow_of_le h hk)

theorem testBit_or_shiftLeft_lt (a b : Nat) {l i : Nat} (h : i < l) :
    (a ||| b <<< l).testBit i = a.testBit i := by
  rw [Nat.testBit_or, Nat.testBit_shiftLeft, decide_eq_false (Nat.not_le.mpr h), Bool.false_and,
    Bool.or_false]

theorem testBit_or_shiftLeft_add {a l : Nat} (ha : a < 2 ^ l) (b k : Nat) :
    (a ||| b <<< l).testBit (l + k) = b.testBit k := by
  rw [Nat.testBit_or, Nat.testBit_shiftLeft, decide_eq_true (Nat.le_add_right l k), Bool.true_and,
    Nat.add_sub_cancel_left, testBit_of_lt_two_pow ha (Nat.le_add_right l k), Bool.false_or]

@[simp] theorem maskBit_true (v : Nat) : maskBit true v = v := rfl
@[simp] theorem maskBit_false (v : Nat) : maskBit false v = 0 := rfl

theorem testBit_maskBit (c : Bool) (v k : Nat) : (maskBit c v).testBit k = (c && v.testBit k) := by
  cases c <;> simp

theorem maskBit_lt (c : Bool) (v m : Nat) (h : v < 2 ^ m) : maskBit c v < 2 ^ m := by
  cases c
  · exact Nat.two_pow_pos m
  · exact h

theorem maskBit_shiftLeft (c : Bool) (v k : Nat) : maskBit c v <<< k = maskBit c (v <<< k) := by
  cases c <;> simp

theorem xor_cancel_left (a b : Nat) : a ^^^ (a ^^^ b) = b := by
  rw [← Nat.xor_assoc, Nat.xor_self, Nat.zero_xor]

theorem xor_cancel_right (a b : Nat) : a ^^^ b ^^^ b = a := by
  rw [Nat.xor_assoc, Nat.xor_self, Nat.xor_zero]

/-- the constant-time selection `x ^ (mask & (y ^ x))` -/
theorem xor_maskBit_xor (c : Bool) (x y : Nat) : (x ^^^ maskBit c (y ^^^ x)) = if c then y else x := by
  cases c
  · simp
  · rw [maskBit_true, Nat.xor_comm, xor_cancel_right]; rfl

theorem leNat_cons (b : UInt8) (bs : Bytes) : leNat (b :: bs) = 2 ^ 8 * leNat bs + b.toNat := by
  rw [Nat.add_comm]; rfl

theorem leNat_lt (bs : Bytes) : leNat bs < 2 ^ (8 * bs.length) := by
  induction bs with
  | nil => show 0 < _; exact Nat.two_pow_pos _
  | cons b bs ih =>
    have hb : b.toNat < 256 := b.toNat_lt
    have e : 2 ^ (8 * (b :: bs).length) = 256 * 2 ^ (8 * bs.length) := by
      rw [List.length_cons, Nat.mul_succ, Nat.pow_add, Nat.mul_comm]
    show b.toNat + 256 * leNat bs < _
    omega

theorem leNat_testBit (bs : Bytes) (i j : Nat) (hj : j < 8) :
    (leNat bs).testBit (8 * i + j) = (bs.getD i 0).toNat.testBit j := by
  induction bs generalizing i with
  | nil => simp [leNat]
  | cons b bs ih =>
    rw [leNat_cons, Nat.testBit_two_pow_mul_add _ (by simpa using b.toNat_lt)]
    cases i with
    | zero => simp [hj]
    | succ i =>
      have h1 : ¬ (8 * (i + 1) + j < 8) := by omega
      have h2 : 8 * (i + 1) + j - 8 = 8 * i + j := by omega
      simp only [h1, if_false, h2, ih]
      simp

/-- bits.go `bitAt` -/
theorem bitAtBytes_eq (i : Nat) (data : Bytes) :
    bitAtBytes i data = if (leNat data).testBit i then 1 else 0 := by
  -- both sides are bit `i%8` of byte `i/8`; the rest turns the `UInt8` shift and mask into `testBit` on `toNat`
  have hi : i = 8 * (i / 8) + i % 8 := by omega
  have hm : i % 8 < 8 := Nat.mod_lt _ (by decide)
  rw [hi, leNat_testBit _ _ _ hm, ← hi]
  unfold bitAtBytes
  have h3 : i >>> 3 = i / 8 := by rw [Nat.shiftRight_eq_div_pow]
  have h7 : i &&& 7 = i % 8 := Nat.and_two_pow_sub_one_eq_mod i 3
  rw [h3, h7]
  apply UInt8.toNat_inj.mp
  rw [UInt8.toNat_and, UInt8.toNat_shiftRight, UInt8.toNat_ofNat']
  have hmm : i % 8 % 2 ^ 8 % 8 = i % 8 := by omega
  rw [hmm]
  have h1 : (1 : UInt8).toNat = 2 ^ 1 - 1 := by decide
  rw [h1, Nat.and_two_pow_sub_one_eq_mod, Nat.shiftRight_eq_div_pow, ← Nat.toNat_testBit]
  cases ((data.getD (i / 8) 0).toNat.testBit (i % 8)) <;> simp

theorem testBit_foldl_or (b : Nat → Bool) (n j : Nat) :
    ((List.range n).foldl (fun row j => row ||| ((b j).toNat <<< j)) 0).testBit j = (decide (j < n) && b j) := by
  induction n with
  | zero => simp
  | succ n ih =>
    rw [List.range_succ, List.foldl_append, List.foldl_cons, List.foldl_nil, Nat.testBit_or, ih,
      Nat.testBit_shiftLeft, Nat.testBit_bool_toNat]
    rcases Nat.lt_trichotomy j n with h | rfl | h
    · simp [h, Nat.lt_succ_of_lt h, Nat.not_le.mpr h]
    · simp
    · simp [Nat.lt_asymm h, Nat.not_lt.mpr (Nat.succ_le_of_lt h), Nat.sub_ne_zero_of_lt h]

theorem transposeRow_testBit (M : List Nat) (i j : Nat) :
    (transposeRow M i).testBit j = (decide (j < otParam) && (M.getD j 0).testBit i) :=
  testBit_foldl_or (fun j => (M.getD j 0).testBit i) otParam j

theorem transposeRow_lt (M : List Nat) (i : Nat) : transposeRow M i < 2 ^ otParam :=
  Nat.lt_pow_two_of_testBit _ fun j hj => by
    rw [transposeRow_testBit, decide_eq_false (Nat.not_lt.mpr hj), Bool.false_and]

/-- the correlated-OT relation, from columns `Q[k] = T[k] ⊕ d_k·x` to rows `q_j = t_j ⊕ x_j·d` -/
theorem transposeRow_xor_mask (Q T : List Nat) (d x j : Nat) (hd : d < 2 ^ otParam)
    (hcol : ∀ k, k < otParam → Q.getD k 0 = T.getD k 0 ^^^ maskBit (d.testBit k) x) :
    transposeRow Q j = transposeRow T j ^^^ maskBit (x.testBit j) d := by
  apply Nat.eq_of_testBit_eq
  intro k
  rw [Nat.testBit_xor, transposeRow_testBit, transposeRow_testBit, testBit_maskBit]
  by_cases hk : k < otParam
  · rw [hcol k hk, Nat.testBit_xor, testBit_maskBit]
    cases d.testBit k <;> cases x.testBit j <;> simp [hk]
  · simp [hk, testBit_of_lt_two_pow hd (Nat.le_of_not_lt hk)]

theorem transposeBits_length (l : Nat) (M : List Nat) : (transposeBits l M).length = l := by
  simp [transposeBits]

theorem transposeBits_getD (l : Nat) (M : List Nat) (i : Nat) (h : i < l) :
    (transposeBits l M).getD i 0 = transposeRow M i := getD_map_range _ _ _ _ h

theorem transposeBits_getD_lt (l : Nat) (M : List Nat) (i : Nat) : (transposeBits l M).getD i 0 < 2 ^ otParam := by
  by_cases h : i < l
  · rw [transposeBits_getD l M i h]; exact transposeRow_lt M i
  · rw [getD_of_length_le _ _ _ (by rw [transposeBits_length]; omega)]; exact Nat.two_pow_pos _

theorem transpose_spec (l : Nat) (M : List Nat) (i j : Nat) (hi : i < l) (hj : j < otParam) :
    bitAt j ((transposeBits l M).getD i 0) = bitAt i (M.getD j 0) := by
  rw [transposeBits_getD l M i hi]
  simp [bitAt, transposeRow_testBit, hj]

theorem beN_getD (k v i : Nat) (h : i < k) :
    ((beN k v).getD i 0).toNat = v / 2 ^ (8 * (k - 1 - i)) % 2 ^ 8 := by
  induction k generalizing v with
  | zero => omega
  | succ k ih =>
    rw [beN, getD_concat, beN_length]
    split
    · next hk =>
      rw [ih _ hk, Nat.div_div_eq_div_mul, show 256 = 2 ^ 8 from rfl, ← Nat.pow_add,
        show 8 + 8 * (k - 1 - i) = 8 * (k + 1 - 1 - i) by omega]
    · rw [if_pos (by omega), show k + 1 - 1 - i = 0 by omega, UInt8.toNat_ofNat', Nat.mul_zero,
        Nat.pow_zero, Nat.div_one]
      exact Nat.mod_mod _ _

end Mps.OT
