import Mps.Pool
/-
  Proofs for M6 (worker pool): invariants and ranking functions of the repaired transition
  systems `Pool.Fixed.Par` and `Pool.Fixed.Search`, for every number of workers, every task
  count and every schedule. Core-only.
-/
namespace Mps.Pool

section
variable {α : Type} {l : List α} {w : Nat} {a b c : α}

theorem forall_mem_set {Q : α → Prop} (h : ∀ x ∈ l, Q x) (hb : Q b) : ∀ x ∈ l.set w b, Q x :=
  fun x hx => (List.mem_or_eq_of_mem_set hx).elim (h x) (fun e => e ▸ hb)

theorem mem_set_self (h : l[w]? = some a) : b ∈ l.set w b :=
  List.mem_set (List.getElem?_eq_some_iff.mp h).1 b

theorem mem_set_of_ne (h : l[w]? = some a) (hc : c ∈ l) (hne : c ≠ a) : c ∈ l.set w b := by
  obtain ⟨w', hw'⟩ := List.getElem?_of_mem hc
  have : w ≠ w' := fun e => hne (Option.some.inj ((e ▸ hw').symm.trans h))
  exact List.mem_of_getElem? ((List.getElem?_set_ne this).trans hw')

theorem eq_replicate_or_exists_ne (l : List α) (a : α) : l = List.replicate l.length a ∨ ∃ b ∈ l, b ≠ a := by
  by_cases h : ∃ b ∈ l, b ≠ a
  · exact .inr h
  · exact .inl (List.eq_replicate_iff.mpr ⟨rfl, fun b hb => Classical.not_not.mp fun hne => h ⟨b, hb, hne⟩⟩)

theorem wsum_set (g : α → Nat) (h : l[w]? = some a) : wsum g (l.set w b) + g a = wsum g l + g b := by
  induction l generalizing w with
  | nil => cases h
  | cons x l ih =>
    cases w with
    | zero => cases h; simp only [List.set_cons_zero, wsum]; omega
    | succ w => have := ih (w := w) h; simp only [List.set_cons_succ, wsum]; omega

theorem le_wsum_of_mem (g : α → Nat) (h : a ∈ l) : g a ≤ wsum g l := by
  induction l with
  | nil => cases h
  | cons x l ih =>
    rcases List.mem_cons.mp h with rfl | h
    · exact Nat.le_add_right _ _
    · exact Nat.le_trans (ih h) (Nat.le_add_left _ _)

theorem wsum_replicate (g : α → Nat) (n : Nat) : wsum g (List.replicate n a) = n * g a := by
  induction n with
  | zero => simp [wsum]
  | succ n ih => rw [List.replicate_succ, wsum, ih, Nat.succ_mul, Nat.add_comm]

theorem wsum_mono {g g' : α → Nat} (hg : ∀ a, g' a ≤ g a) (l : List α) : wsum g' l ≤ wsum g l := by
  induction l with
  | nil => exact Nat.le_refl _
  | cons x l ih => exact Nat.add_le_add (hg x) ih
end

section
variable {σ L : Type} {step : σ → L → Option σ}

theorem run_cons_eq_some {s s' : σ} {l : L} {ls : List L} :
    run step s (l :: ls) = some s' ↔ ∃ s1, step s l = some s1 ∧ run step s1 ls = some s' := by
  rw [run]
  cases step s l with
  | none => exact ⟨nofun, fun ⟨_, h, _⟩ => nomatch h⟩
  | some x => exact ⟨fun h => ⟨x, rfl, h⟩, fun ⟨_, h1, h2⟩ => Option.some.inj h1 ▸ h2⟩

theorem run_inv_of {P : σ → Prop} {ok : L → Prop} (hstep : ∀ s l s', P s → ok l → step s l = some s' → P s') :
    ∀ (ls : List L) (s s' : σ), P s → (∀ l ∈ ls, ok l) → run step s ls = some s' → P s' := by
  intro ls
  induction ls with
  | nil => intro s s' hp _ h; cases h; exact hp
  | cons l ls ih =>
    intro s s' hp hok h
    obtain ⟨s1, h1, h2⟩ := run_cons_eq_some.mp h
    exact ih s1 s' (hstep s l s1 hp (hok l (List.mem_cons_self ..)) h1) (fun l hl => hok l (List.mem_cons_of_mem _ hl)) h2

theorem run_inv (step : σ → L → Option σ) (P : σ → Prop)
    (hstep : ∀ s l s', P s → step s l = some s' → P s') (ls : List L) (s s' : σ) (hp : P s)
    (h : run step s ls = some s') : P s' :=
  run_inv_of (ok := fun _ => True) (fun s l s' hp _ => hstep s l s' hp) ls s s' hp (fun _ _ => trivial) h

theorem run_rank {P : σ → Prop} {rank : σ → Nat} {credit : L → Nat}
    (hP : ∀ s l s', P s → step s l = some s' → P s')
    (hstep : ∀ s l s', P s → step s l = some s' → rank s' + 1 ≤ rank s + credit l) :
    ∀ (ls : List L) (s s' : σ), P s → run step s ls = some s' →
      rank s' + ls.length ≤ rank s + (ls.map credit).sum := by
  intro ls
  induction ls with
  | nil => intro s s' _ h; cases h; exact Nat.le_refl _
  | cons l ls ih =>
    intro s s' hp h
    obtain ⟨s1, h1, h2⟩ := run_cons_eq_some.mp h
    have := ih s1 s' (hP s l s1 hp h1) h2
    have := hstep s l s1 hp h1
    simp only [List.length_cons, List.map_cons, List.sum_cons]; omega

theorem run_append {σ L : Type} (step : σ → L → Option σ) :
    ∀ (ls ls' : List L) (s s' : σ), run step s ls = some s' → run step s (ls ++ ls') = run step s' ls' := by
  intro ls
  induction ls with
  | nil => intro ls' s s' h; cases h; rfl
  | cons l ls ih =>
    intro ls' s s' h
    obtain ⟨s1, h1, h2⟩ := run_cons_eq_some.mp h
    rw [List.cons_append, run, h1]; exact ih ls' s1 s' h2

theorem final_of_stuck {final : σ → Bool} {s : σ} (hen : final s = false → ∃ l s', step s l = some s')
    (hmax : ∀ l, step s l = none) : final s = true := by
  cases hf : final s with
  | true => rfl
  | false => obtain ⟨l, s', h⟩ := hen hf; rw [hmax l] at h; cases h
end

theorem parallelizeAloneLoop_get (f : Nat → Val) : ∀ (k i : Nat) (res : List (Option Val)), i + k ≤ res.length →
    ∀ j : Nat, (parallelizeAloneLoop f k i res)[j]? = if i ≤ j ∧ j < i + k then some (some (f j)) else res[j]? := by
  intro k
  induction k with
  | zero => intro i res _ j; rw [if_neg (by omega)]; rfl
  | succ k ih =>
    intro i res h j
    rw [parallelizeAloneLoop, ih (i + 1) _ (by simp; omega) j, List.getElem?_set]
    by_cases e : i = j
    · subst e; simp [show i < res.length by omega]
    · have : (i + 1 ≤ j ∧ j < i + 1 + k) ↔ (i ≤ j ∧ j < i + (k + 1)) := by omega
      simp only [if_neg e, this]

theorem parallelizeAloneLoop_length (f : Nat → Val) : ∀ (k i : Nat) (res : List (Option Val)),
    (parallelizeAloneLoop f k i res).length = res.length := by
  intro k
  induction k with
  | zero => intro i res; rfl
  | succ k ih => intro i res; simp [parallelizeAloneLoop, ih]

theorem parallelizeAlone_eq (f : Nat → Val) (n : Nat) :
    parallelizeAlone f n = (List.range n).map (fun i => some (f i)) := by
  apply List.ext_getElem?
  intro j
  rw [parallelizeAlone, parallelizeAloneLoop_get f n 0 _ (by simp) j]
  by_cases h : j < n <;> simp [h]

theorem searchAloneLoop_eq (answers : List (Option Val)) (k : Nat) (acc : List (Option Val)) :
    searchAloneLoop answers k acc =
      if k ≤ (answers.filter Option.isSome).length then some (acc.reverse ++ (answers.filter Option.isSome).take k) else none := by
  fun_induction searchAloneLoop answers k acc with
  | case1 => simp
  | case2 => simp
  | case3 rest k acc ih => simpa using ih
  | case4 v rest k acc ih => simpa using ih

namespace Fixed.Par

inductive Step (n : Nat) (f : Nat → Val) (s : State) : Label → State → Prop
  | cmd (w : Nat) : s.ret = false → s.cmdI < n → s.ws[w]? = some .idle →
      Step n f s (.cmd w) { s with cmdI := s.cmdI + 1, ws := s.ws.set w (.got s.cmdI) }
  | write (w i : Nat) : s.ws[w]? = some (.got i) →
      Step n f s (.write w) { s with res := s.res.set i (some (f i)), ws := s.ws.set w .notify }
  | notify (w : Nat) : s.ret = false → s.ws[w]? = some .notify → (s.cmdI < n ∨ s.recvd < n) →
      Step n f s (.notify w) { s with recvd := s.recvd + 1, ws := s.ws.set w .idle }
  | ret : s.ret = false → ¬ s.cmdI < n → ¬ s.recvd < n → Step n f s .ret { s with ret := true }

variable {nw n : Nat} {f : Nat → Val} {s s' : State} {l : Label}

theorem step_iff : step n f s l = some s' ↔ Step n f s l s' := by
  constructor
  · intro h
    cases l <;> simp only [step] at h <;> split at h <;> cases h
    · rename_i w hc; exact .cmd w hc.1 hc.2.1 hc.2.2
    · exact .write _ _ ‹_›
    · rename_i w hc; exact .notify w hc.1 hc.2.1 hc.2.2
    · rename_i hc; exact .ret hc.1 hc.2.1 hc.2.2
  · intro h
    cases h <;> simp [step, *]

structure Inv (nw n : Nat) (f : Nat → Val) (s : State) : Prop where
  /-- every command sent is held by exactly one busy worker or has been acknowledged -/
  count : wsum busy s.ws + s.recvd = s.cmdI
  le : s.cmdI ≤ n
  ret : s.ret = true → s.recvd = n
  len : s.res.length = n
  wlen : s.ws.length = nw
  gotlt : ∀ a ∈ s.ws, ∀ i, a = .got i → i < s.cmdI
  /-- the result of a command sent is written unless a worker still holds the command -/
  done : ∀ i, i < s.cmdI → .got i ∈ s.ws ∨ s.res[i]? = some (some (f i))

theorem inv_init (nw n : Nat) (f : Nat → Val) : Inv nw n f (init (List.replicate nw .idle) n) where
  count := by simp [init, wsum_replicate, busy]
  le := Nat.zero_le _
  ret := nofun
  len := List.length_replicate
  wlen := List.length_replicate
  gotlt := fun _ h _ e => nomatch (List.eq_of_mem_replicate h).symm.trans e
  done := nofun

theorem inv_step (I : Inv nw n f s) (h : Step n f s l s') : Inv nw n f s' := by
  have := I.count; have := I.le
  cases h with
  | cmd w _ hlt hw =>
    have := wsum_set busy hw (b := .got s.cmdI)
    exact { I with
      count := by simp only [busy] at *; omega
      le := hlt
      wlen := List.length_set.trans I.wlen
      gotlt := forall_mem_set (fun a ha i e => Nat.lt_succ_of_lt (I.gotlt a ha i e))
        (fun i e => by cases e; exact Nat.lt_succ_self _)
      done := fun i hi => (Nat.lt_succ_iff_lt_or_eq.mp hi).elim
        (fun hi => (I.done i hi).imp (fun h => mem_set_of_ne hw h nofun) id)
        (fun e => .inl (e ▸ mem_set_self hw)) }
  | write w i hw =>
    have := wsum_set busy hw (b := .notify)
    have hi := I.gotlt _ (List.mem_of_getElem? hw) i rfl
    exact { I with
      count := by simp only [busy] at *; omega
      len := List.length_set.trans I.len
      wlen := List.length_set.trans I.wlen
      gotlt := forall_mem_set I.gotlt nofun
      done := fun j hj => by
        by_cases e : j = i
        · exact .inr (by rw [e]; exact List.getElem?_set_self (by rw [I.len]; omega))
        · exact (I.done j hj).imp (fun h => mem_set_of_ne hw h (by simpa using e))
            (fun h => by rw [← h]; exact List.getElem?_set_ne (Ne.symm e)) }
  | notify w hr hw _ =>
    have := wsum_set busy hw (b := .idle)
    exact { I with
      count := by simp only [busy] at *; omega
      ret := fun h => nomatch hr.symm.trans h
      wlen := List.length_set.trans I.wlen
      gotlt := forall_mem_set I.gotlt nofun
      done := fun i hi => (I.done i hi).imp (fun h => mem_set_of_ne hw h nofun) id }
  | ret hr h1 h2 => exact { I with ret := fun _ => by simp only []; omega }

theorem inv_run (nw n : Nat) (f : Nat → Val) (ls : List Label) (s : State)
    (h : run (step n f) (init (List.replicate nw .idle) n) ls = some s) : Inv nw n f s :=
  run_inv (step n f) (Inv nw n f) (fun _ _ _ I h => inv_step I (step_iff.mp h)) ls _ s (inv_init nw n f) h

theorem busy_eq_zero {a : W} : busy a = 0 ↔ a = .idle := by cases a <;> simp [busy]

theorem idle_of_ret (I : Inv nw n f s) (hr : s.ret = true) : s.ws = List.replicate nw .idle := by
  have := I.count; have := I.le; have := I.ret hr
  exact List.eq_replicate_iff.mpr ⟨I.wlen, fun a ha => busy_eq_zero.mp (by have := le_wsum_of_mem busy ha; omega)⟩

theorem results_of_ret (I : Inv nw n f s) (hr : s.ret = true) : s.res = (List.range n).map (fun i => some (f i)) := by
  have := I.count; have := I.ret hr
  apply List.ext_getElem (by simp [I.len])
  intro i hi _
  rcases I.done i (by rw [I.len] at hi; omega) with h | h
  · rw [idle_of_ret I hr] at h; cases List.eq_of_mem_replicate h
  · simpa [List.getElem?_eq_getElem hi] using h

/-- a worker that holds a command is never blocked: in particular the caller is still there to receive its
    notification -/
theorem enabled_of_busy (I : Inv nw n f s) (hr : s.ret = false) {w : Nat} {a : W} (hw : s.ws[w]? = some a)
    (ha : a ≠ .idle) : ∃ l s', Step n f s l s' := by
  cases a with
  | idle => exact absurd rfl ha
  | got i => exact ⟨_, _, .write w i hw⟩
  | notify =>
    have := le_wsum_of_mem busy (List.mem_of_getElem? hw); have := I.count; have := I.le
    exact ⟨_, _, .notify w hr hw (by simp only [busy] at *; omega)⟩

theorem enabled_of_not_ret (hnw : 0 < nw) (I : Inv nw n f s) (hr : s.ret = false) : ∃ l s', step n f s l = some s' := by
  suffices ∃ l s', Step n f s l s' from this.imp fun _ => .imp fun _ => step_iff.mpr
  rcases eq_replicate_or_exists_ne s.ws .idle with hidle | ⟨a, ha, hne⟩
  · have hc := I.count
    rw [hidle, wsum_replicate] at hc
    by_cases hlt : s.cmdI < n
    · exact ⟨_, _, .cmd 0 hr hlt (by rw [hidle, I.wlen]; simp [hnw])⟩
    · exact ⟨_, _, .ret hr hlt (by simp only [busy] at hc; omega)⟩
  · obtain ⟨w, hw⟩ := List.getElem?_of_mem ha
    exact enabled_of_busy I hr hw hne

theorem rank_step (h : Step n f s l s') : rank n s' + 1 = rank n s := by
  cases h with
  | cmd w hr hlt hw =>
    have := wsum_set togo hw (b := .got s.cmdI); simp only [rank, togo, hr] at *; omega
  | write w i hw => have := wsum_set togo hw (b := .notify); simp only [rank, togo] at *; omega
  | notify w hr hw _ => have := wsum_set togo hw (b := .idle); simp only [rank, togo] at *; omega
  | ret hr _ _ => simp [rank, hr]; omega

theorem rank_run (n : Nat) (f : Nat → Val) : ∀ (ls : List Label) (s s' : State),
    run (step n f) s ls = some s' → rank n s' + ls.length = rank n s := by
  intro ls
  induction ls with
  | nil => intro s s' h; cases h; rfl
  | cons l ls ih =>
    intro s s' h
    obtain ⟨s1, h1, h2⟩ := run_cons_eq_some.mp h
    have := ih s1 s' h2; have := rank_step (step_iff.mp h1)
    simp only [List.length_cons]; omega

theorem rank_init (nw n : Nat) : rank n (init (List.replicate nw .idle) n) = 3 * n + 1 := by
  simp [rank, init, wsum_replicate, togo]; omega

end Fixed.Par

namespace Fixed.Search

/-- the tests inside `step` give separate rules, and a slot that passes `0 ≤ i` is given as a natural number -/
inductive Step (s : State) : Label → State → Prop
  | cmd (w : Nat) : s.ret = false → s.cmdI < s.ws.length → s.ws[w]? = some .idle →
      Step s (.cmd w) { s with cmdI := s.cmdI + 1, ws := s.ws.set w .load }
  | loadPos (w : Nat) : s.ws[w]? = some .load → 0 < s.ctr → Step s (.load w) { s with ws := s.ws.set w .eval }
  | loadNeg (w : Nat) : s.ws[w]? = some .load → ¬ 0 < s.ctr → Step s (.load w) { s with ws := s.ws.set w .done }
  | evalNil (w : Nat) : s.ws[w]? = some .eval → Step s (.eval w none) { s with ws := s.ws.set w .load }
  | evalSome (w : Nat) (v : Val) : s.ws[w]? = some .eval → Step s (.eval w (some v)) { s with ws := s.ws.set w (.dec v) }
  | dec (w : Nat) (v : Val) : s.ws[w]? = some (.dec v) →
      Step s (.dec w) { s with ctr := s.ctr - 1, ws := s.ws.set w (.write (s.ctr - 1) v) }
  | write (w k : Nat) (v : Val) : s.ws[w]? = some (.write k v) →
      Step s (.write w) { s with res := s.res.set k (some v), ws := s.ws.set w .load }
  | skip (w : Nat) (i : Int) (v : Val) : s.ws[w]? = some (.write i v) → ¬ 0 ≤ i →
      Step s (.write w) { s with ws := s.ws.set w .load }
  | notify (w : Nat) : s.ret = false → s.ws[w]? = some .done → (s.cmdI < s.ws.length ∨ s.recvd < s.ws.length) →
      Step s (.notify w) { s with recvd := s.recvd + 1, ws := s.ws.set w .idle }
  | ret : s.ret = false → ¬ s.cmdI < s.ws.length → ¬ s.recvd < s.ws.length → Step s .ret { s with ret := true }

theorem step_iff {s s' : State} {l : Label} : step s l = some s' ↔ Step s l s' := by
  constructor
  · intro h
    cases l <;> simp only [step] at h <;> split at h <;> cases h
    · rename_i w hc; exact .cmd w hc.1 hc.2.1 hc.2.2
    · rename_i w hw
      by_cases hc : s.ctr > 0
      · rw [if_pos hc]; exact .loadPos w hw hc
      · rw [if_neg hc]; exact .loadNeg w hw hc
    · rename_i w r hw; cases r; exact .evalNil w hw; exact .evalSome w _ hw
    · exact .dec _ _ ‹_›
    · rename_i i _ _
      by_cases hi : 0 ≤ i
      · obtain ⟨k, rfl⟩ := Int.eq_ofNat_of_zero_le hi
        rw [if_pos hi]; exact .write _ k _ ‹_›
      · rw [if_neg hi]; exact .skip _ _ _ ‹_› hi
    · rename_i w hc; exact .notify w hc.1 hc.2.1 hc.2.2
    · rename_i hc; exact .ret hc.1 hc.2.1 hc.2.2
  · intro h
    cases h <;> simp [step, *]

/-- what the state of a worker promises about the counter: a worker has left the loop only after it saw the
    counter exhausted, and a slot about to be written was claimed by a decrement -/
def ctrOk (n : Nat) (ctr : Int) : W → Prop
  | .done => ctr ≤ 0
  | .write i _ => i < n ∧ ctr ≤ i
  | _ => True

theorem ctrOk_mono {n : Nat} {c c' : Int} (h : c' ≤ c) {a : W} (ha : ctrOk n c a) : ctrOk n c' a := by
  cases a <;> simp only [ctrOk] at * <;> omega

structure Inv (nw n : Nat) (s : State) : Prop where
  count : wsum busy s.ws + s.recvd = s.cmdI
  le : s.cmdI ≤ nw
  ret : s.ret = true → s.recvd = nw
  len : s.res.length = n
  wlen : s.ws.length = nw
  ctrle : s.ctr ≤ n
  fin : 0 < s.recvd → s.ctr ≤ 0
  ctrOk : ∀ a ∈ s.ws, ctrOk n s.ctr a
  /-- a claimed slot is written unless the claiming worker is still about to write it -/
  slot : ∀ i : Nat, i < n → s.ctr ≤ i → (∃ v, .write i v ∈ s.ws) ∨ ∃ v, s.res[i]? = some (some v)

variable {nw n : Nat} {s s' : State} {l : Label}

theorem inv_init (nw n : Nat) : Inv nw n (init (List.replicate nw .idle) n) where
  count := by simp [init, wsum_replicate, busy]
  le := Nat.zero_le _
  ret := nofun
  len := List.length_replicate
  wlen := List.length_replicate
  ctrle := Int.le_refl _
  fin := fun h => nomatch h
  ctrOk := fun _ h => by rw [List.eq_of_mem_replicate h]; trivial
  slot := fun i hi hc => by simp only [init] at hc; omega

theorem Inv.slot_set (I : Inv nw n s) {w : Nat} {a b : W} (hw : s.ws[w]? = some a)
    (ha : ∀ (i : Nat) v, .write i v ≠ a) {i : Nat} (hi : i < n) (hc : s.ctr ≤ i) :
    (∃ v, .write i v ∈ s.ws.set w b) ∨ ∃ v, s.res[i]? = some (some v) :=
  (I.slot i hi hc).imp (fun ⟨v, h⟩ => ⟨v, mem_set_of_ne hw h (ha i v)⟩) id

theorem Inv.local (I : Inv nw n s) {w : Nat} {a b : W} (hw : s.ws[w]? = some a)
    (ha : ∀ (i : Nat) v, .write i v ≠ a) (hbusy : busy b = busy a) (hb : Search.ctrOk n s.ctr b) :
    Inv nw n { s with ws := s.ws.set w b } :=
  { I with
    count := by have := wsum_set busy hw (b := b); have := I.count; simp only []; omega
    wlen := List.length_set.trans I.wlen
    ctrOk := forall_mem_set I.ctrOk hb
    slot := fun _ => I.slot_set hw ha }

theorem inv_step (I : Inv nw n s) (h : Step s l s') : Inv nw n s' := by
  cases h with
  | loadPos w hw hc => exact I.local hw nofun rfl trivial
  | loadNeg w hw hc => exact I.local hw nofun rfl (Int.not_lt.mp hc)
  | evalNil w hw => exact I.local hw nofun rfl trivial
  | evalSome w v hw => exact I.local hw nofun rfl trivial
  | skip w i v hw hi => exact I.local hw (fun j v' e => by cases e; omega) rfl trivial
  | cmd w _ hlt hw =>
    have := wsum_set busy hw (b := .load); have := I.count; have := I.wlen
    exact { I with
      count := by simp only [busy] at *; omega
      le := by simp only []; omega
      wlen := List.length_set.trans I.wlen
      ctrOk := forall_mem_set I.ctrOk trivial
      slot := fun _ => I.slot_set hw nofun }
  | dec w v hw =>
    have := wsum_set busy hw (b := .write (s.ctr - 1) v); have := I.count; have := I.ctrle
    exact { I with
      count := by simp only [busy] at *; omega
      wlen := List.length_set.trans I.wlen
      ctrle := by simp only []; omega
      fin := fun h => by have := I.fin h; simp only []; omega
      ctrOk := forall_mem_set (fun a ha => ctrOk_mono (c' := s.ctr - 1) (by omega) (I.ctrOk a ha))
        ⟨by omega, Int.le_refl _⟩
      slot := fun i hi hc => by
        by_cases e : s.ctr ≤ (i : Int)
        · exact I.slot_set hw nofun hi e
        · have : s.ctr - 1 = (i : Int) := by simp only [] at hc; omega
          exact .inl ⟨v, this ▸ mem_set_self hw⟩ }
  | write w k v hw =>
    have hk : k < s.res.length := by have := (I.ctrOk _ (List.mem_of_getElem? hw)).1; have := I.len; omega
    have := wsum_set busy hw (b := .load); have := I.count
    exact { I with
      count := by simp only [busy] at *; omega
      len := List.length_set.trans I.len
      wlen := List.length_set.trans I.wlen
      ctrOk := forall_mem_set I.ctrOk trivial
      slot := fun j hj hc => by
        by_cases e : k = j
        · exact .inr ⟨v, e ▸ List.getElem?_set_self hk⟩
        · exact (I.slot j hj hc).imp (fun ⟨v', h⟩ => ⟨v', mem_set_of_ne hw h fun e' => by cases e'; exact e rfl⟩)
            (fun ⟨v', h⟩ => ⟨v', (List.getElem?_set_ne e).trans h⟩) }
  | notify w hr hw _ =>
    have := wsum_set busy hw (b := .idle); have := I.count
    have hfin : s.ctr ≤ 0 := I.ctrOk _ (List.mem_of_getElem? hw)
    exact { I with
      count := by simp only [busy] at *; omega
      ret := fun h => nomatch hr.symm.trans h
      wlen := List.length_set.trans I.wlen
      fin := fun _ => hfin
      ctrOk := forall_mem_set I.ctrOk trivial
      slot := fun _ => I.slot_set hw nofun }
  | ret hr h1 h2 =>
    have := I.count; have := I.le; have := I.wlen
    exact { I with ret := fun _ => by simp only []; omega }

theorem inv_run (nw n : Nat) (ls : List Label) (s : State)
    (h : run step (init (List.replicate nw .idle) n) ls = some s) : Inv nw n s :=
  run_inv step (Inv nw n) (fun _ _ _ I h => inv_step I (step_iff.mp h)) ls _ s (inv_init nw n) h

theorem busy_eq_zero {a : W} : busy a = 0 ↔ a = .idle := by cases a <;> simp [busy]

theorem idle_of_ret (I : Inv nw n s) (hr : s.ret = true) : s.ws = List.replicate nw .idle := by
  have := I.count; have := I.le; have := I.ret hr
  exact List.eq_replicate_iff.mpr ⟨I.wlen, fun a ha => busy_eq_zero.mp (by have := le_wsum_of_mem busy ha; omega)⟩

theorem results_of_ret (hnw : 0 < nw) (I : Inv nw n s) (hr : s.ret = true) :
    s.res.length = n ∧ ∀ i, i < n → ∃ v, s.res[i]? = some (some v) := by
  refine ⟨I.len, fun i hi => ?_⟩
  have hctr : s.ctr ≤ 0 := I.fin (by have := I.ret hr; omega)
  rcases I.slot i hi (by omega) with ⟨v, h⟩ | h
  · rw [idle_of_ret I hr] at h; cases List.eq_of_mem_replicate h
  · exact h

theorem enabled_of_busy (I : Inv nw n s) (hr : s.ret = false) {w : Nat} {a : W} (hw : s.ws[w]? = some a)
    (ha : a ≠ .idle) : ∃ l s', Step s l s' := by
  cases a with
  | idle => exact absurd rfl ha
  | load =>
    by_cases h : 0 < s.ctr
    · exact ⟨_, _, .loadPos w hw h⟩
    · exact ⟨_, _, .loadNeg w hw h⟩
  | eval => exact ⟨_, _, .evalNil w hw⟩
  | dec v => exact ⟨_, _, .dec w v hw⟩
  | write i v =>
    by_cases h : 0 ≤ i
    · obtain ⟨k, rfl⟩ := Int.eq_ofNat_of_zero_le h
      exact ⟨_, _, .write w k v hw⟩
    · exact ⟨_, _, .skip w i v hw h⟩
  | done =>
    have := le_wsum_of_mem busy (List.mem_of_getElem? hw); have := I.count; have := I.le; have := I.wlen
    exact ⟨_, _, .notify w hr hw (by simp only [busy] at *; omega)⟩

theorem enabled_of_not_ret (hnw : 0 < nw) (I : Inv nw n s) (hr : s.ret = false) : ∃ l s', step s l = some s' := by
  suffices ∃ l s', Step s l s' from this.imp fun _ => .imp fun _ => step_iff.mpr
  rcases eq_replicate_or_exists_ne s.ws .idle with hidle | ⟨a, ha, hne⟩
  · have hc := I.count
    rw [hidle, wsum_replicate] at hc
    by_cases hlt : s.cmdI < s.ws.length
    · exact ⟨_, _, .cmd 0 hr hlt (by rw [hidle, I.wlen]; simp [hnw])⟩
    · exact ⟨_, _, .ret hr hlt (by simp only [busy] at hc; omega)⟩
  · obtain ⟨w, hw⟩ := List.getElem?_of_mem ha
    exact enabled_of_busy I hr hw hne

theorem pot_mono {c c' : Int} (h : c' ≤ c) (a : W) : pot c' a ≤ pot c a := by
  cases a <;> simp only [pot, Nat.le_refl]
  split <;> split <;> omega

/-- credit of a label: an oracle answer `nil` may raise the potential -/
def credit : Label → Nat
  | .eval _ none => 2
  | _ => 0

theorem rank_move {w c : Nat} {a b : W} (hw : s.ws[w]? = some a) (hws : s'.ws = s.ws.set w b)
    (hret : s'.ret = s.ret) (hctr : s'.ctr = s.ctr) (hcmd : s'.cmdI = s.cmdI)
    (h : pot s.ctr b + 1 ≤ pot s.ctr a + c) : rank s' + 1 ≤ rank s + c := by
  have := wsum_set (pot s.ctr) hw (b := b)
  simp only [rank, hws, hret, hctr, hcmd, List.length_set]; omega

theorem rank_step (I : Inv nw n s) (h : Step s l s') : rank s' + 1 ≤ rank s + credit l := by
  cases h with
  | loadPos w hw hc => exact rank_move hw rfl rfl rfl rfl (by simp only [pot, if_pos hc]; omega)
  | loadNeg w hw hc => exact rank_move hw rfl rfl rfl rfl (by simp only [pot, if_neg hc]; omega)
  | evalNil w hw => exact rank_move hw rfl rfl rfl rfl (by simp only [pot, credit]; split <;> omega)
  | evalSome w v hw => exact rank_move hw rfl rfl rfl rfl (by simp only [pot]; omega)
  | write w k v hw =>
    exact rank_move hw rfl rfl rfl rfl (by simp only [pot, if_pos (Int.natCast_nonneg k)]; split <;> omega)
  | skip w i v hw hi =>
    have := (I.ctrOk _ (List.mem_of_getElem? hw)).2
    exact rank_move hw rfl rfl rfl rfl (by simp only [pot, if_neg hi]; split <;> omega)
  | notify w hr hw _ => exact rank_move hw rfl rfl rfl rfl (by simp only [pot]; omega)
  | cmd w hr hlt hw =>
    have := wsum_set (pot s.ctr) hw (b := .load)
    have : pot s.ctr .load ≤ 6 := by simp only [pot]; split <;> omega
    simp only [rank, credit, List.length_set]; omega
  | dec w v hw =>
    have h1 := wsum_set (pot (s.ctr - 1)) hw (b := .write (s.ctr - 1) v)
    have := wsum_mono (pot_mono (c := s.ctr) (c' := s.ctr - 1) (by omega)) s.ws
    simp only [rank, credit, List.length_set, pot] at *; split at h1 <;> omega
  | ret hr _ _ => simp [rank, credit, hr]; omega

theorem sum_credit (ls : List Label) : (ls.map credit).sum = 2 * nils ls := by
  induction ls with
  | nil => rfl
  | cons l ls ih =>
    rw [List.map_cons, List.sum_cons, ih]
    cases l with
    | eval w r => cases r <;> simp only [nils, credit] <;> omega
    | _ => simp only [nils, credit]; omega

theorem rank_run (nw n : Nat) (ls : List Label) (s s' : State) (I : Inv nw n s) (h : run step s ls = some s') :
    rank s' + ls.length ≤ rank s + 2 * nils ls :=
  sum_credit ls ▸ run_rank (P := Inv nw n) (credit := credit) (fun _ _ _ I h => inv_step I (step_iff.mp h))
    (fun _ _ _ I h => rank_step I (step_iff.mp h)) ls s s' I h

theorem rank_init (nw n : Nat) : rank (init (List.replicate nw .idle) n) = 7 * nw + 4 * n + 1 := by
  simp [rank, init, wsum_replicate, pot]; omega

/-! provenance: every value in the result slice is an answer of the oracle -/

def answersOk (P : Val → Prop) : List Label → Prop
  | [] => True
  | .eval _ (some v) :: ls => P v ∧ answersOk P ls
  | _ :: ls => answersOk P ls

def labelOk (P : Val → Prop) : Label → Prop
  | .eval _ (some v) => P v
  | _ => True

theorem answersOk_iff (P : Val → Prop) (ls : List Label) : answersOk P ls ↔ ∀ l ∈ ls, labelOk P l := by
  induction ls with
  | nil => simp [answersOk]
  | cons l ls ih =>
    rw [List.forall_mem_cons, ← ih]
    cases l with
    | eval w r => cases r <;> simp [answersOk, labelOk]
    | _ => simp [answersOk, labelOk]

def valOk (P : Val → Prop) : W → Prop
  | .dec v => P v
  | .write _ v => P v
  | _ => True

structure Prov (P : Val → Prop) (s : State) : Prop where
  ws : ∀ a ∈ s.ws, valOk P a
  res : ∀ x ∈ s.res, ∀ v, x = some v → P v

theorem prov_init (P : Val → Prop) (nw n : Nat) : Prov P (init (List.replicate nw .idle) n) :=
  ⟨fun _ h => by rw [List.eq_of_mem_replicate h]; trivial,
   fun _ h _ e => nomatch (List.eq_of_mem_replicate h).symm.trans e⟩

theorem prov_step {P : Val → Prop} (I : Prov P s) (hl : labelOk P l) (h : Step s l s') : Prov P s' := by
  cases h with
  | evalSome w v hw => exact ⟨forall_mem_set I.ws hl, I.res⟩
  | dec w v hw => exact ⟨forall_mem_set I.ws (I.ws (.dec v) (List.mem_of_getElem? hw)), I.res⟩
  | write w k v hw =>
    exact ⟨forall_mem_set I.ws trivial,
      forall_mem_set I.res fun _ e => Option.some.inj e ▸ I.ws (.write k v) (List.mem_of_getElem? hw)⟩
  | ret => exact ⟨I.ws, I.res⟩
  | _ => exact ⟨forall_mem_set I.ws trivial, I.res⟩

theorem prov_run (P : Val → Prop) (ls : List Label) (s s' : State) (I : Prov P s) (ha : answersOk P ls)
    (h : run step s ls = some s') : Prov P s' :=
  run_inv_of (fun _ _ _ I hl h => prov_step I hl (step_iff.mp h)) ls s s' I ((answersOk_iff P ls).mp ha) h

end Fixed.Search
end Mps.Pool
