import Mps.System
/-
  Evaluating a concrete session. `Sys` is a function, and a session after k deliveries is a chain of k function
  updates in which the kernel finds a party's state again and again; here the deliveries are kept in a list of
  (party, state) entries over the initial session, and one walk checks every delivery and returns the list. Core-only.
-/
namespace Mps.System
open Mps Mps.Handler

def Sys.over (σ : Sys) (l : List (Bytes × State)) : Sys := fun q => ((l.find? (·.1 == q)).map (·.2)).getD (σ q)

def walk (ok : Sys → Bytes → Msg → Bool) (H : Bytes → Bytes) (σ : Sys) :
    List (Bytes × State) → Sched → Option (List (Bytes × State))
  | l, [] => some l
  | l, e :: rest =>
    if ok (σ.over l) e.1 e.2 then walk ok H σ ((e.1, accept H (σ.over l e.1) e.2) :: l) rest else none

theorem Sys.over_deliver (H : Bytes → Bytes) (σ : Sys) (l : List (Bytes × State)) (p : Bytes) (m : Msg) :
    σ.over ((p, accept H (σ.over l p) m) :: l) = (σ.over l).deliver H p m := by
  funext q
  unfold Sys.over Sys.deliver
  rw [List.find?_cons]
  by_cases h : q = p
  · subst h; simp
  · have : (p == q) = false := by simpa using Ne.symm h
    simp [this, h]

/-- `g` is `causalFrom` or `byzCausalFrom`, `ok` its check of one delivery -/
theorem walk_some {ok : Sys → Bytes → Msg → Bool} {H : Bytes → Bytes} {g : Sys → Sched → Bool}
    (g_nil : ∀ σ, g σ [] = true) (g_cons : ∀ σ e rest, g σ (e :: rest) = (ok σ e.1 e.2 && g (σ.deliver H e.1 e.2) rest))
    {σ : Sys} {l τ : List (Bytes × State)} {sched : Sched} (h : walk ok H σ l sched = some τ) :
    g (σ.over l) sched = true ∧ (σ.over l).runFrom H sched = σ.over τ := by
  induction sched generalizing l with
  | nil => cases h; exact ⟨g_nil _, rfl⟩
  | cons e rest ih =>
    unfold walk at h
    split at h
    · next hc =>
      have := ih h
      rw [Sys.over_deliver] at this
      exact ⟨by rw [g_cons, hc, this.1]; rfl, this.2⟩
    · cases h

/-- stated with `σ`, not `σ.over []`: at a concrete session the two are expensive to identify -/
theorem walk_checked {ok : Sys → Bytes → Msg → Bool} {H : Bytes → Bytes} {g : Sys → Sched → Bool}
    (g_nil : ∀ σ, g σ [] = true) (g_cons : ∀ σ e rest, g σ (e :: rest) = (ok σ e.1 e.2 && g (σ.deliver H e.1 e.2) rest))
    {σ : Sys} {τ : List (Bytes × State)} {sched : Sched} (h : walk ok H σ [] sched = some τ) :
    g σ sched = true ∧ σ.runFrom H sched = σ.over τ :=
  walk_some g_nil g_cons h

theorem checked_of_walk {ok : Sys → Bytes → Msg → Bool} {H : Bytes → Bytes} {g : Sys → Sched → Bool}
    (g_nil : ∀ σ, g σ [] = true) (g_cons : ∀ σ e rest, g σ (e :: rest) = (ok σ e.1 e.2 && g (σ.deliver H e.1 e.2) rest))
    {σ : Sys} {sched : Sched} (h : (walk ok H σ [] sched).isSome = true) : g σ sched = true :=
  let ⟨_, hτ⟩ := Option.isSome_iff_exists.mp h
  (walk_checked g_nil g_cons hτ).1

end Mps.System
