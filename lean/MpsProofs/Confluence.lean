/-
  Order independence by canonical forms, for any machine that consumes a list of inputs one by one; and a key that
  does not repeat in a list determines the element (`pairwise_ne_inj`). Core-only.
-/
namespace Mps

theorem pairwise_ne_inj {α β : Type} {f : α → β} {l : List α} (hp : l.Pairwise (fun a b => f a ≠ f b)) {a b : α}
    (ha : a ∈ l) (hb : b ∈ l) (e : f a = f b) : a = b :=
  List.Pairwise.forall_of_forall_of_flip (R := fun a b => f a = f b → a = b) (fun _ _ _ => rfl)
    (hp.imp fun hne e => absurd e hne) (hp.imp fun hne e => absurd e.symm hne) ha hb e

theorem snoc_induction {α : Type} {P : List α → Prop} (nil : P []) (snoc : ∀ l a, P l → P (l ++ [a])) (l : List α) :
    P l := by
  suffices h : ∀ k : List α, P k.reverse by simpa using h l.reverse
  intro k
  induction k with
  | nil => exact nil
  | cons a k ih => rw [List.reverse_cons]; exact snoc _ a ih

/-- `c l` is the canonical state for the input list `l`. Two sequences whose canonical states are `R`-related (say,
    because `c` depends only on the set of inputs) thus end in `R`-related states. -/
theorem foldl_canon {S M : Type} {R : S → S → Prop} (trans : ∀ {a b c}, R a b → R b c → R a c) {acc : S → M → S}
    (congr : ∀ {a b} m, R a b → R (acc a m) (acc b m)) {s0 : S} {c : List M → S} {P : M → Prop} (h0 : R s0 (c []))
    (ins : ∀ l m, (∀ x ∈ l, P x) → P m → R (acc (c l) m) (c (l ++ [m]))) (l : List M) (hl : ∀ x ∈ l, P x) :
    R (l.foldl acc s0) (c l) := by
  induction l using snoc_induction with
  | nil => exact h0
  | snoc l m ih =>
    have hl' : ∀ x ∈ l, P x := fun x hx => hl x (List.mem_append_left _ hx)
    rw [List.foldl_append]
    exact trans (congr m (ih hl')) (ins l m hl' (hl m (List.mem_append_right _ (List.mem_singleton_self m))))

end Mps
