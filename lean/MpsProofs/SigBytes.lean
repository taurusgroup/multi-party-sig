import MpsProofs.Typed
import Mps.Sig
/-
  Byte level of C16, core-only. Each model of a Go function is rewritten into its specification: `fromHashGo`
  (truncate to 32 bytes, then shift) is bits2int because shifting out whole bytes is `take`; `decodeGo` is the strict
  decoder on a normalised prefix byte; `Bip340.verifyGo` on a 32-byte key is BIP-340 verification because the points
  it computes are reduced (`Red`), so comparing x bytes is comparing x coordinates below p; the Ethereum export
  with r reduced is the standard one by cases on (parity of y, high s, x ≥ n).
-/
namespace Mps.Sig
open Mps Mps.Secp

theorem unbe_nil : unbe [] = 0 := rfl

theorem fromHashGo_eq (h : Bytes) : fromHashGo h = fromHash h := by
  by_cases hl : h.length > 32
  · have ht : (h.take 32).length = 32 := by rw [List.length_take]; omega
    have hb : 8 * h.length > 256 := by omega
    have e1 : fromHashGo h = unbe (h.take 32) % n := by
      simp [fromHashGo, hl, ht]
    have e2 : fromHash h = (unbe h >>> (8 * h.length - 256)) % n := by
      simp [fromHash, bits2int, hb]
    rw [e1, e2, ← unbe_shiftRight_take h 32, Nat.mul_sub]
  · have hb : ¬ (256 < 8 * h.length) := by omega
    have e1 : fromHashGo h = unbe h % n := by
      simp [fromHashGo, hl, hb]
    have e2 : fromHash h = unbe h % n := by
      simp [fromHash, bits2int, hb]
    rw [e1, e2]

/-- the prefix byte is only ever compared with 3 -/
theorem decodeGo_cons (pre : UInt8) (rest : Bytes) :
    decodeGo (pre :: rest) = decodeStrict ((if pre = 3 then 3 else 2) :: rest) := by
  by_cases h : pre = 3
  · subst h; simp [decodeGo, decodeStrict]
  · have h' : (pre == 3) = false := by simpa using h
    simp [decodeGo, decodeStrict, h, h']

theorem decodeStrict_imp_decodeGo (bs : Bytes) (P : Pt) (h : decodeStrict bs = some P) : decodeGo bs = some P := by
  cases bs with
  | nil => cases h
  | cons pre rest =>
    rw [decodeGo_cons]
    by_cases h3 : pre = 3
    · rwa [if_pos h3, ← h3]
    · by_cases h2 : pre = 2
      · rwa [if_neg h3, ← h2]
      · simp [decodeStrict, h2, h3] at h

theorem decodeGo_char (bs : Bytes) (P : Pt) (h : decodeGo bs = some P) :
    ∃ pre rest, bs = pre :: rest ∧ rest.length = 32 ∧
      decodeStrict ((if pre = 3 then 3 else 2) :: rest) = some P := by
  cases bs with
  | nil => cases h
  | cons pre rest =>
    refine ⟨pre, rest, rfl, ?_, decodeGo_cons pre rest ▸ h⟩
    simp only [decodeGo] at h
    split at h
    · cases h
    · next hl => exact Decidable.not_not.1 hl

theorem decodeFixed_eq_strict (bs : Bytes) : decodeFixed bs = decodeStrict bs := by
  cases bs with
  | nil => rfl
  | cons pre rest =>
    simp only [decodeFixed, decodeStrict]
    by_cases hl : rest.length ≠ 32
    · simp [hl]
    · simp only [hl, if_false]
      by_cases h2 : pre = 2
      · subst h2; simp
      · by_cases h3 : pre = 3
        · subst h3; simp
        · simp [h2, h3]

/-- what `mul` returns, and `neg`, `add` on reduced points -/
def Red : Pt → Prop
  | .inf => True
  | .aff x y => x < p ∧ y < p

theorem p_pos : 0 < p := by decide
theorem p_lt : p < 256 ^ 32 := by decide

theorem fsub_lt (a b : Nat) : fsub a b < p := Nat.mod_lt _ p_pos

theorem red_mul (k : Nat) (P : Pt) : Red (mul k P) := by
  cases P with
  | inf => simp [mul, Red]
  | aff x y =>
    simp only [mul]
    split
    · simp [Red]
    · unfold JPt.toAffine
      split
      · simp [Red]
      · exact ⟨Nat.mod_lt _ p_pos, Nat.mod_lt _ p_pos⟩

theorem red_neg (P : Pt) (h : Red P) : Red (neg P) := by
  cases P with
  | inf => simp [neg, Red]
  | aff x y => exact ⟨h.1, Nat.mod_lt _ p_pos⟩

theorem red_add (P Q : Pt) (hP : Red P) (hQ : Red Q) : Red (add P Q) := by
  cases P with
  | inf => simpa [add] using hQ
  | aff x1 y1 =>
    cases Q with
    | inf => simpa [add] using hP
    | aff x2 y2 =>
      simp only [add]
      split
      · split
        · simp [Red]
        · exact ⟨fsub_lt _ _, fsub_lt _ _⟩
      · exact ⟨fsub_lt _ _, fsub_lt _ _⟩

theorem xcoord_lt (P : Pt) (h : Red P) : xcoord P < 256 ^ 32 := by
  cases P with
  | inf => simp [xcoord]
  | aff x y => exact Nat.lt_trans h.1 p_lt

theorem xBytes_eq_iff (C : Pt) (hC : Red C) (hne : C ≠ .inf) (rb : Bytes) (hl : rb.length = 32) :
    (xBytes C == rb) = decide (xcoord C = unbe rb) := by
  cases C with
  | inf => exact absurd rfl hne
  | aff x y =>
    have hx : x < 256 ^ 32 := xcoord_lt _ hC
    simp only [xBytes, xcoord]
    by_cases e : x = unbe rb
    · have : beN 32 x = rb := by rw [e, ← hl, beN_unbe]
      rw [this]; simp [e]
    · have : beN 32 x ≠ rb := by
        intro h
        apply e
        have := congrArg unbe h
        rwa [unbe_beN, Nat.mod_eq_of_lt hx] at this
      simp [this, e]

theorem scalarDecodeGo_eq (bs : Bytes) (h : bs.length = 32) :
    scalarDecodeGo bs = if unbe bs ≥ n then none else some (unbe bs) := by
  simp [scalarDecodeGo, h]

theorem challenge_unbe (rb pk m : Bytes) (hr : rb.length = 32) (hp : pk.length = 32) :
    Bip340.challenge (unbe rb) (unbe pk) m = unbe (Sha2.taggedHash "BIP0340/challenge" [rb, pk, m]) % n := by
  unfold Bip340.challenge
  rw [← hr, beN_unbe, hr, ← hp, beN_unbe]

/-- the last three checks of `PublicKey.Verify` on a reduced point are those of BIP-340, which rejects r ≥ p beforehand -/
theorem verifyGo_tail_eq (C : Pt) (hC : Red C) (rb : Bytes) (hl : rb.length = 32) :
    (if C = .inf then false else if !hasEvenY C then false else xBytes C == rb) =
      if unbe rb ≥ p then false else decide (C ≠ .inf) && hasEvenY C && decide (xcoord C = unbe rb) := by
  by_cases hinf : C = .inf
  · simp [hinf]
  · rw [if_neg hinf]
    cases hev : hasEvenY C
    · simp
    · rw [xBytes_eq_iff C hC hinf rb hl]
      by_cases e : xcoord C = unbe rb
      · have : ¬ unbe rb ≥ p := by
          cases C with
          | inf => exact absurd rfl hinf
          | aff x y => exact Nat.not_le.2 (e ▸ hC.1)
        simp [hinf, e, this]
      · simp [hinf, e]

theorem bip340_verifyGo_eq_verify (pk m sig : Bytes) (hpk : pk.length = 32) :
    Bip340.verifyGo pk m sig = Bip340.verify pk m sig := by
  unfold Bip340.verifyGo Bip340.verify schnorrVerifyO
  by_cases hs : sig.length = 64
  · have hrl : (sig.take 32).length = 32 := by rw [List.length_take]; omega
    have hsl : (sig.drop 32).length = 32 := by rw [List.length_drop]; omega
    have hs' : ¬ (sig.length ≠ 64) := by simpa using hs
    have htake : pk.take 32 = pk := by rw [← hpk]; exact List.take_length
    simp only [hs', hpk, ne_eq, not_true_eq_false, false_or, if_false, htake, scalarDecodeGo_eq _ hsl,
      challenge_unbe _ pk m hrl hpk]
    cases liftX (unbe pk) with
    | none => simp
    | some P =>
      by_cases hsn : unbe (sig.drop 32) ≥ n
      · simp [hsn]
      · simp only [hsn, if_false, or_false]
        exact verifyGo_tail_eq _ (red_add _ _ (red_mul _ _) (red_neg _ (red_mul _ _))) _ hrl
  · simp [hs]

theorem n_pos : 0 < n := by decide
theorem n_lt : n < 256 ^ 32 := by decide

theorem reduced_iff (x : Nat) (hx : x < 256 ^ 32) : (beN 32 (x % n) != beN 32 x) = decide (x ≥ n) := by
  have hm : x % n < 256 ^ 32 := Nat.lt_trans (Nat.mod_lt _ n_pos) n_lt
  by_cases h : x ≥ n
  · have : beN 32 (x % n) ≠ beN 32 x := by
      intro e
      have := beN_inj 32 _ _ hm hx e
      have := Nat.mod_lt x n_pos
      omega
    simp [h, this]
  · have : x % n = x := Nat.mod_eq_of_lt (by omega)
    simp [h, this]

theorem ethFixed_conforms (dec : Bytes → Option Pt) (x y s : Nat) (hx : x < 256 ^ 32) (hs0 : 0 < s) (hsn : s < n)
    (e : Bytes) (h : (sigEthereumFixed dec (.aff x y) s).1 = some e) : ethExportSpec (.aff x y) s = some e := by
  have henc : encodeGo (.aff x y) = (if y % 2 = 0 then 0x02 else 0x03) :: beN 32 x := rfl
  unfold sigEthereumFixed at h
  simp only [henc, xcoord, List.drop_succ_cons, List.drop_zero, List.headD_cons] at h
  split at h
  · simp at h
  · simp only [Option.some.injEq] at h
    rw [← h]
    unfold ethExportSpec
    simp only [Option.some.injEq, reduced_iff x hx]
    have hneg : (n - s) % n = n - s := Nat.mod_eq_of_lt (by omega)
    -- in each of the 8 cases both sides are the same three byte strings; what is left is arithmetic on the byte v
    by_cases hy : y % 2 = 0 <;> by_cases ho : s > n / 2 <;> by_cases hxn : x ≥ n
    all_goals (have hy' : (y % 2 = 1) ↔ ¬ (y % 2 = 0) := by omega)
    all_goals simp [hy, hy', ho, hxn, hneg]
    all_goals decide

end Mps.Sig
