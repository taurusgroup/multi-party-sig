import Mps.Sig
import Mathlib.Algebra.Module.Basic
import Mathlib.Algebra.Field.Basic
/-
  Lemmas for C16: the signature algorithms of `Mps/Sig.lean` over a LAWFUL record of operations —
  scalars a field `F`, points an `F`-module `G` (every prime-order group is one), an arbitrary
  generator, an arbitrary "x coordinate as a scalar" map and an arbitrary parity predicate with
  the stated laws. The same definitions are executed on secp256k1 by the driver.
  For ANY record the model of `Signature.Verify` is the specification (`verifyGoO_eq_spec`); over a lawful one it
  accepts iff m·G + r·X = s·R (`valid_iff`), and the ECDSA theorems of C16 are consequences of that equation.
-/
namespace Mps.Sig

section anyops
variable {F G : Type} [DecidableEq F] [DecidableEq G] (O : Ops F G)

theorem verifyGoO_eq_spec (X : G) (m : F) (R : G) (s : F) :
    verifyGoO O X m R s = ecdsaVerifySpecO O X m R s := by
  unfold verifyGoO ecdsaVerifySpecO
  by_cases h1 : O.xs R = O.fzero <;> by_cases h2 : s = O.fzero <;> simp [h1, h2]

theorem ecdsaVerifySpecO_iff (X : G) (m : F) (R : G) (s : F) :
    ecdsaVerifySpecO O X m R s = true ↔
      (O.xs R ≠ O.fzero ∧ s ≠ O.fzero ∧ O.smul (O.finv s) (O.gadd (O.smul m O.gen) (O.smul (O.xs R) X)) = R) := by
  simp [ecdsaVerifySpecO, and_assoc]

theorem verifyGoO_iff (X : G) (m : F) (R : G) (s : F) :
    verifyGoO O X m R s = true ↔
      (O.xs R ≠ O.fzero ∧ s ≠ O.fzero ∧ O.smul (O.finv s) (O.gadd (O.smul m O.gen) (O.smul (O.xs R) X)) = R) :=
  verifyGoO_eq_spec O X m R s ▸ ecdsaVerifySpecO_iff O X m R s

end anyops

section laws
variable {F G : Type} [Field F] [AddCommGroup G] [Module F G]

@[reducible] def lawful (gen : G) (xs : G → F) (evenY : G → Bool) : Ops F G where
  fzero := 0
  fadd := (· + ·)
  fneg := Neg.neg
  fmul := (· * ·)
  finv := Inv.inv
  gzero := 0
  gadd := (· + ·)
  gneg := Neg.neg
  smul := (· • ·)
  gen := gen
  xs := xs
  evenY := evenY

theorem smul_ne_zero_of {a : F} {g : G} (ha : a ≠ 0) (hg : g ≠ 0) : a • g ≠ 0 :=
  fun h => hg (by rw [← inv_smul_smul₀ ha g, h, smul_zero])

variable [DecidableEq F] [DecidableEq G] (gen : G) (xs : G → F) (evenY : G → Bool)

theorem valid_iff (X : G) (m : F) (R : G) (s : F) :
    verifyGoO (lawful gen xs evenY) X m R s = true ↔ xs R ≠ 0 ∧ s ≠ 0 ∧ m • gen + xs R • X = s • R := by
  rw [verifyGoO_iff]
  exact and_congr_right fun _ => and_congr_right fun hs => inv_smul_eq_iff₀ hs

/-- the point u₁·G + u₂·X of the textbook verifier is s⁻¹·(m·G + r·X) -/
theorem rs_iff (X : G) (m r s : F) :
    ecdsaVerifyRSO (lawful gen xs evenY) X m r s = true ↔
      r ≠ 0 ∧ s ≠ 0 ∧ s⁻¹ • (m • gen + r • X) ≠ 0 ∧ xs (s⁻¹ • (m • gen + r • X)) = r := by
  have hP : (m * s⁻¹) • gen + (r * s⁻¹) • X = s⁻¹ • (m • gen + r • X) := by
    rw [smul_add, smul_smul, smul_smul, mul_comm m, mul_comm r]
  simp only [ecdsaVerifyRSO, hP, ne_eq, Bool.and_eq_true, decide_eq_true_eq, and_assoc]

variable {X M : Type} [DecidableEq X]

omit [DecidableEq F] [DecidableEq G] [DecidableEq X] in
/-- BIP-340 negates a secret or nonce whose point has odd y: same x coordinate, an even non-zero point -/
theorem even_rep (xc : G → X) (hpar : ∀ P : G, P ≠ 0 → evenY (-P) = !evenY P) (hxc : ∀ P : G, xc (-P) = xc P)
    (a : F) (ha : a • gen ≠ 0) :
    xc ((if evenY (a • gen) then a else -a) • gen) = xc (a • gen) ∧
      evenY ((if evenY (a • gen) then a else -a) • gen) = true ∧ (if evenY (a • gen) then a else -a) • gen ≠ 0 := by
  by_cases h : evenY (a • gen) = true
  · simp only [h, if_true, ne_eq, ha, not_false_eq_true, and_self]
  · simp only [h, if_false, Bool.false_eq_true, neg_smul, hxc, hpar _ ha, neg_ne_zero, ne_eq, ha, not_false_eq_true,
      Bool.not_eq_true', and_true]

omit [DecidableEq F] in
theorem schnorrVerifyO_of_eq (xc : G → X) (lift : X → Option G) (chal : X → X → M → F)
    (hlift : ∀ P : G, P ≠ 0 → evenY P = true → lift (xc P) = some P)
    {P R : G} (hP0 : P ≠ 0) (hPe : evenY P = true) (hR0 : R ≠ 0) (hRe : evenY R = true) (m : M) (z : F)
    (h : chal (xc R) (xc P) m • P + R = z • gen) :
    schnorrVerifyO (lawful gen xs evenY) xc lift chal (xc P) m (xc R) z = true := by
  unfold schnorrVerifyO
  rw [hlift P hP0 hPe]
  dsimp only
  rw [← sub_eq_add_neg, ← eq_sub_of_add_eq' h]
  simp [hR0, hRe]

end laws

end Mps.Sig
