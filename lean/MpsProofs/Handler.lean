import MpsProofs.HandlerCases
/-
  The handler lifecycle (M5): the frames `SameLife` and `SameCore`, the lifecycle invariant `Good`, and `Preserved` /
  `Reach`, which reduce an invariant of `run` to the elementary transitions. Core-only.
-/
namespace Mps.Handler

def SameLife (a b : State) : Prop :=
  a.err = b.err ∧ a.result = b.result ∧ a.closes = b.closes ∧ a.sc = b.sc ∧ a.out = b.out

theorem SameLife.refl (a : State) : SameLife a a := ⟨rfl, rfl, rfl, rfl, rfl⟩

def SameCore (a b : State) : Prop :=
  a.sc = b.sc ∧ a.idx = b.idx ∧ a.cur = b.cur ∧ a.reached = b.reached ∧ a.msgs = b.msgs ∧ a.bc = b.bc ∧ a.bh = b.bh ∧
  a.err = b.err ∧ a.result = b.result ∧ a.out = b.out ∧ a.closes = b.closes

theorem sameCore_iff {a b : State} : SameCore a b ↔ b = { a with acc := b.acc, accused := b.accused } := by
  constructor
  · rintro ⟨h1, h2, h3, h4, h5, h6, h7, h8, h9, h10, h11⟩
    cases a; cases b; simp_all
  · intro h; rw [h]; exact ⟨rfl, rfl, rfl, rfl, rfl, rfl, rfl, rfl, rfl, rfl, rfl⟩

theorem SameCore.refl (a : State) : SameCore a a := sameCore_iff.mpr rfl
theorem SameCore.trans {a b c : State} (h1 : SameCore a b) (h2 : SameCore b c) : SameCore a c := by
  rw [sameCore_iff] at *
  rw [h2, h1]
theorem SameCore.symm {a b : State} (h : SameCore a b) : SameCore b a := by
  rw [sameCore_iff] at *
  rw [h]
theorem SameCore.toSameLife {a b : State} (h : SameCore a b) : SameLife a b := by
  rw [sameCore_iff.mp h]; exact SameLife.refl a

theorem store_sameLife (s : State) (m : Msg) : SameLife s (store s m) := by rw [store_with]; exact SameLife.refl s
theorem fillBh_sameLife (H : Bytes → Bytes) (s : State) : SameLife s (fillBh H s) := by
  rw [fillBh_eq]; exact SameLife.refl s

theorem enter_sameLife (s : State) (i : Nat) (nx : RoundSpec) : SameLife s (enter s i nx) := SameLife.refl s
theorem enter0_sameLife (s : State) : SameLife s (enter0 s) := SameLife.refl s

theorem storeContent_sameCore (s : State) (m : Msg) (c : Content) : SameCore s (storeContent s m c) :=
  sameCore_iff.mpr rfl

/-- for both `roundStore…` functions (`ok`) -/
theorem roundStore_sameCore {ok : Content → Bool} {s s' : State} {m : Msg}
    (h : (m.dec.filter ok).map (storeContent s m) = some s') : SameCore s s' := by
  obtain ⟨c, -, -, rfl⟩ := roundStore_some h
  exact storeContent_sameCore s m c

theorem roundStoreP2P_sameCore (s s' : State) (m : Msg) (h : roundStoreP2P s m = some s') : SameCore s s' :=
  roundStore_sameCore (roundStoreP2P_eq s m ▸ h)

theorem roundStoreBcast_sameCore (s s' : State) (m : Msg) (h : roundStoreBcast s m = some s') : SameCore s s' :=
  roundStore_sameCore (roundStoreBcast_eq s m ▸ h)

theorem verifyMessage_sameCore (s s' : State) (m : Msg) (h : verifyMessage s m = .ok s') : SameCore s s' := by
  rcases verifyMessage_cases s m with e | ⟨-, e⟩ | ⟨-, -, e⟩ | ⟨s'', -, -, hs, e⟩ <;> rw [e] at h <;> cases h
  · exact SameCore.refl s
  · exact roundStoreP2P_sameCore s _ m hs

theorem verifyBroadcastMessage_sameCore (s s' : State) (m : Msg) (h : verifyBroadcastMessage s m = .ok s') :
    SameCore s s' := by
  rcases verifyBroadcastMessage_cases s m with e | ⟨-, e⟩ | ⟨-, -, e⟩ | ⟨s1, -, h1, e | ⟨p, -, -, e⟩⟩ <;> rw [e] at h
  · cases h; exact SameCore.refl s
  · cases h
  · cases h
  · cases h; exact roundStoreBcast_sameCore s _ m h1
  · exact (roundStoreBcast_sameCore s s1 m h1).trans (verifyMessage_sameCore s1 s' p h)

theorem verified_sameCore {s s' : State} {m : Msg}
    (h : (if m.bcast then verifyBroadcastMessage s m else verifyMessage s m) = .ok s') : SameCore s s' := by
  split at h
  · exact verifyBroadcastMessage_sameCore _ _ _ h
  · exact verifyMessage_sameCore _ _ _ h

theorem roundStoreP2P_sameLife (s s' : State) (m : Msg) (h : roundStoreP2P s m = some s') : SameLife s s' :=
  (roundStoreP2P_sameCore s s' m h).toSameLife
theorem roundStoreBcast_sameLife (s s' : State) (m : Msg) (h : roundStoreBcast s m = some s') : SameLife s s' :=
  (roundStoreBcast_sameCore s s' m h).toSameLife

theorem failOf_sameCore (r : VRes) (frm : Bytes) (st s0 : State) (h : SameCore s0 st)
    (hr : ∀ st', r = .ok st' → SameCore st st') : SameCore s0 (failOf r frm st).1 := by
  cases r with
  | ok st' => exact h.trans (hr st' rfl)
  | bad => exact h
  | echo => exact h

theorem replayStep_sameCore (sp : RoundSpec) (n : Nat) (acc : State × Option Fail) (id : Bytes) (s0 : State)
    (h : SameCore s0 acc.1) : SameCore s0 (replayStep sp n acc id).1 := by
  obtain ⟨st, c⟩ := acc
  cases c with
  | some c => exact h
  | none =>
    rcases replayStep_cases sp n st id with e | ⟨-, m, -, e⟩ | ⟨-, m, -, e⟩ <;> rw [e]
    · exact h
    · exact failOf_sameCore _ _ _ _ h (fun st' hv => verifyBroadcastMessage_sameCore _ _ _ hv)
    · exact failOf_sameCore _ _ _ _ h (fun st' hv => verifyMessage_sameCore _ _ _ hv)

theorem replayed_sameCore {s s5 : State} {f : Option Fail} (h : replayQueued s = (s5, f)) : SameCore s s5 := by
  have := replayQueued_induct s (P := fun acc => SameCore s acc.1) (SameCore.refl s)
    (fun acc id h => replayStep_sameCore _ _ acc id s h)
  rwa [h] at this

def Live (s : State) : Prop := s.closes = 0 ∧ s.err = none ∧ s.result = none
def Done (s : State) : Prop :=
  s.closes = 1 ∧ ((s.err.isSome = true ∧ s.result = none) ∨ (s.err = none ∧ s.result.isSome = true))
def Good (s : State) : Prop := Live s ∨ Done s

theorem good_iff (s : State) :
    Good s ↔ s.closes = (if terminal s then 1 else 0) ∧ (s.err = none ∨ s.result = none) := by
  unfold Good Live Done terminal
  cases s.err <;> cases s.result <;> simp

theorem Live.of_sameLife {s s' : State} (h : SameLife s s') (l : Live s) : Live s' := by
  obtain ⟨he, hr, hc, -, -⟩ := h
  exact ⟨hc ▸ l.1, he ▸ l.2.1, hr ▸ l.2.2⟩

theorem abort_some_done (s : State) (k : ErrKind) (l : Live s) : Done (abort s (some k)) := by
  obtain ⟨h1, h2, h3⟩ := l
  simp [abort, Done, h1, h3]

theorem output_done (s : State) (v : Nat) (l : Live s) : Done (abort { enter0 s with result := some v } none) := by
  obtain ⟨h1, h2, h3⟩ := l
  simp [abort, Done, enter0, h1, h2]

theorem terminal_of_done {s : State} (d : Done s) : terminal s = true := by
  rcases d.2 with ⟨h, _⟩ | ⟨_, h⟩ <;> simp [terminal, h]

theorem not_terminal_of_live {s : State} (l : Live s) : terminal s = false := by
  simp [terminal, l.2.1, l.2.2]

theorem sendAll_live (s : State) (ems : List Msg) (l : Live s) : Live (sendAll s ems) := by
  rw [sendAll_with]; exact l

theorem entered_live {s s5 : State} {ems : List Msg} {i : Nat} {nx : RoundSpec} {f : Option Fail}
    (h : replayQueued (enter (sendAll s ems) i nx) = (s5, f)) (l : Live s) : Live s5 := by
  rw [sameCore_iff.mp (replayed_sameCore h), sendAll_with]; exact l

theorem finalizeStep_good (H : Bytes → Bytes) (s : State) (l : Live s) : (finalizeStep H s).sat Good Live := by
  have l1 : Live (fillBh H s) := l.of_sameLife (fillBh_sameLife H s)
  apply finalizeStep_cases H s
  case stay => exact Or.inl l1
  case echo => exact fun _ _ => Or.inr (abort_some_done _ _ l1)
  case finErr => exact fun _ _ _ => Or.inr (abort_some_done _ _ l1)
  case protoAbort => exact fun _ _ _ _ => Or.inr (abort_some_done _ _ (l1.of_sameLife (enter0_sameLife _)))
  case output => exact fun v _ _ _ => Or.inr (output_done _ v l1)
  case sent => exact fun _ _ _ _ _ => Or.inl (sendAll_live _ _ l1)
  case replayed =>
    intro i nx s5 f _ _ _ hq
    have l5 : Live s5 := entered_live hq l1
    cases f with
    | some f => exact Or.inr (abort_some_done _ _ l5)
    | none => exact l5

theorem finalize_good (H : Bytes → Bytes) (fuel : Nat) (s : State) (l : Live s) : Good (finalize H fuel s) :=
  finalize_sat H (fun _ => Or.inl) (finalizeStep_good H) fuel s l

theorem init_good (H : Bytes → Bytes) (sc : Script) : Good (init H sc) := finalize_good H _ _ ⟨rfl, rfl, rfl⟩

theorem accept_good (H : Bytes → Bytes) (s : State) (m : Msg) (g : Good s) : Good (accept H s m) := by
  rcases g with l | d
  · have l1 := l.of_sameLife (store_sameLife s m)
    apply accept_cases H s m
    case ignored => exact Or.inl l
    case notice => exact fun _ _ => Or.inr (abort_some_done _ _ l)
    case queued => exact fun _ _ _ => Or.inl l1
    case verified =>
      intro r _ _ _ hv
      cases r with
      | ok s2 => exact finalize_good H _ _ (l1.of_sameLife (verified_sameCore hv).toSameLife)
      | _ => exact Or.inr (abort_some_done _ _ l1)
  · rw [accept_terminal H s m (terminal_of_done d)]; exact Or.inr d

theorem stop_good (s : State) (g : Good s) : Good (stop s) := by
  rcases g with l | d
  · rw [stop, not_terminal_of_live l]; exact Or.inr (abort_some_done _ _ l)
  · rw [stop_terminal s (terminal_of_done d)]; exact Or.inr d

theorem apply_good (H : Bytes → Bytes) (s : State) (c : Call) (g : Good s) : Good (apply H s c) := by
  cases c
  case accept m => exact accept_good H s m g
  case stop => exact stop_good s g
  all_goals exact g

theorem run_good (H : Bytes → Bytes) (sc : Script) (calls : List Call) : Good (run H sc calls) :=
  run_induct H (apply_good H) sc calls (init_good H sc)

def OutOk (s : State) : Prop := ∀ m ∈ s.out, m.ssid = some s.sc.ssid ∧ m.proto = s.sc.proto ∧ m.frm = s.sc.self

structure Preserved (H : Bytes → Bytes) (P : State → Prop) : Prop where
  onCore : ∀ {s s' : State}, SameCore s s' → P s → P s'
  onStore : ∀ (s : State) (m : Msg), P s → P (store s m)
  onFill : ∀ (s : State), P s → P (fillBh H s)
  onAbort : ∀ (s : State) (e : Option ErrKind), P s → P (abort s e)
  onSend : ∀ (s : State) (nx : RoundSpec), P s → P (sendAll s (emitFor s nx))
  onEnter : ∀ (s : State) (i : Nat) (nx : RoundSpec), s.sc.rounds[i]? = some nx → i = s.idx + 1 → P s → P (enter s i nx)
  onEnter0 : ∀ (s : State), P s → P (enter0 s)
  onOutput : ∀ (s : State) (v : Nat), P s → P { enter0 s with result := some v }

theorem finalizeStep_pres {H : Bytes → Bytes} {P : State → Prop} (hp : Preserved H P) (s : State) (o : P s) :
    P (finalizeStep H s).st := by
  have o1 : P (fillBh H s) := hp.onFill s o
  apply finalizeStep_cases H s (motive := fun st => P st.st)
  case stay => exact o1
  case echo => exact fun _ _ => hp.onAbort _ _ o1
  case finErr => exact fun _ _ _ => hp.onAbort _ _ o1
  case protoAbort => exact fun _ _ _ _ => hp.onAbort _ _ (hp.onEnter0 _ o1)
  case output => exact fun _ _ _ _ => hp.onAbort _ _ (hp.onOutput _ _ o1)
  case sent => exact fun _ nx _ _ _ => hp.onSend _ nx o1
  case replayed =>
    intro i nx s5 f _ _ hpf hq
    obtain ⟨hr, hi⟩ := protoFinalize_round _ i nx hpf
    have o5 : P s5 := hp.onCore (replayed_sameCore hq) (hp.onEnter _ i nx
      (by rw [sendAll_with]; exact hr) (by rw [sendAll_with]; exact hi) (hp.onSend _ nx o1))
    cases f with
    | some f => exact hp.onAbort _ _ o5
    | none => exact o5

theorem finalize_pres {H : Bytes → Bytes} {P : State → Prop} (hp : Preserved H P) (fuel : Nat) (s : State) (o : P s) :
    P (finalize H fuel s) :=
  finalize_sat H (fun _ o => o) (fun s o => Step.sat_st (finalizeStep_pres hp s o)) fuel s o

theorem accept_pres {H : Bytes → Bytes} {P : State → Prop} (hp : Preserved H P) (s : State) (m : Msg) (o : P s) :
    P (accept H s m) := by
  have o1 := hp.onStore s m o
  apply accept_cases H s m
  case ignored => exact o
  case notice => exact fun _ _ => hp.onAbort _ _ o
  case queued => exact fun _ _ _ => o1
  case verified =>
    intro r _ _ _ hv
    cases r with
    | ok s2 => exact finalize_pres hp _ _ (hp.onCore (verified_sameCore hv) o1)
    | _ => exact hp.onAbort _ _ o1

theorem stop_pres {H : Bytes → Bytes} {P : State → Prop} (hp : Preserved H P) (s : State) (o : P s) : P (stop s) := by
  unfold stop
  split
  · exact o
  · exact hp.onAbort _ _ o

theorem apply_pres {H : Bytes → Bytes} {P : State → Prop} (hp : Preserved H P) (s : State) (c : Call) (o : P s) :
    P (apply H s c) := by
  cases c
  case accept m => exact accept_pres hp s m o
  case stop => exact stop_pres hp s o
  all_goals exact o

theorem run_pres {H : Bytes → Bytes} {P : State → Prop} (hp : Preserved H P) (sc : Script) (calls : List Call)
    (h0 : P (init H sc)) : P (run H sc calls) :=
  run_induct H (apply_pres hp) sc calls h0

theorem preserved_of_sameLife (H : Bytes → Bytes) (P : State → Prop)
    (hl : ∀ {s s' : State}, SameLife s s' → P s → P s')
    (ha : ∀ (s : State) (e : Option ErrKind), P s → P (Handler.abort s e))
    (hs : ∀ (s : State) (nx : RoundSpec), P s → P (sendAll s (emitFor s nx)))
    (ho : ∀ (s : State) (v : Nat), P s → P { enter0 s with result := some v }) : Preserved H P where
  onCore := fun h o => hl h.toSameLife o
  onStore := fun s m o => hl (store_sameLife s m) o
  onFill := fun s o => hl (fillBh_sameLife H s) o
  onAbort := ha
  onSend := hs
  onEnter := fun s i nx _ _ o => hl (enter_sameLife s i nx) o
  onEnter0 := fun s o => hl (enter0_sameLife s) o
  onOutput := ho

theorem preserved_of_queues (H : Bytes → Bytes) (P : State → Prop)
    (hq : ∀ s s' : State, P s → s.sc = s'.sc → s.msgs = s'.msgs → s.bc = s'.bc → s.bh = s'.bh → P s')
    (hs : ∀ (s : State) (m : Msg), P s → P (store s m)) (hf : ∀ s : State, P s → P (fillBh H s)) : Preserved H P where
  onCore := fun h o => hq _ _ o h.1 h.2.2.2.2.1 h.2.2.2.2.2.1 h.2.2.2.2.2.2.1
  onStore := hs
  onFill := hf
  onAbort := fun s e o => by cases e <;> exact hq _ _ o rfl rfl rfl rfl
  onSend := fun s _ o => sendAll_pres hs (fun _ _ o => hq _ _ o rfl rfl rfl rfl) s _ o
  onEnter := fun _ _ _ _ _ o => hq _ _ o rfl rfl rfl rfl
  onEnter0 := fun _ o => hq _ _ o rfl rfl rfl rfl
  onOutput := fun _ _ o => hq _ _ o rfl rfl rfl rfl

theorem outOk_preserved (H : Bytes → Bytes) : Preserved H OutOk := by
  refine preserved_of_sameLife H OutOk (fun ⟨_, _, _, hsc, hout⟩ o m hm => hsc ▸ o m (hout ▸ hm)) ?_ ?_
    (fun _ _ o => o)
  · intro s e o m hm
    cases e with
    | none => exact o m hm
    | some k =>
      rcases List.mem_append.mp hm with hm | hm
      · exact o m hm
      · cases List.mem_singleton.mp hm; exact ⟨rfl, rfl, rfl⟩
  · intro s nx o m hm
    rw [sendAll_with] at hm ⊢
    rcases List.mem_append.mp hm with hm | hm
    · exact o m hm
    · obtain ⟨to, b, -, rfl⟩ := mem_emitFor hm
      exact ⟨rfl, rfl, rfl⟩

theorem sc_preserved (H : Bytes → Bytes) (sc : Script) : Preserved H (fun s => s.sc = sc) :=
  preserved_of_sameLife H _ (fun h o => h.2.2.2.1 ▸ o)
    (fun s e o => by cases e <;> exact o)
    (fun s nx o => by rw [sendAll_with]; exact o)
    (fun _ _ o => o)

/-- An over-approximation of the reachable states: the elementary transitions that `finalize`, `Accept` and `Stop`
    are composed of, in any order and with any arguments. It includes every intermediate state inside a call, and
    states no run has (`abort` twice, where `Good` fails). -/
inductive Reach (H : Bytes → Bytes) (sc : Script) : State → Prop where
  | start : Reach H sc (state0 sc)
  | core {s s' : State} : Reach H sc s → SameCore s s' → Reach H sc s'
  | store {s : State} (m : Msg) : Reach H sc s → Reach H sc (Handler.store s m)
  | fill {s : State} : Reach H sc s → Reach H sc (fillBh H s)
  | abort {s : State} (e : Option ErrKind) : Reach H sc s → Reach H sc (Handler.abort s e)
  | send {s : State} (nx : RoundSpec) : Reach H sc s → Reach H sc (sendAll s (emitFor s nx))
  | enter {s : State} (i : Nat) (nx : RoundSpec) : s.sc.rounds[i]? = some nx → i = s.idx + 1 → Reach H sc s →
      Reach H sc (Handler.enter s i nx)
  | enter0 {s : State} : Reach H sc s → Reach H sc (Handler.enter0 s)
  | output {s : State} (v : Nat) : Reach H sc s → Reach H sc { Handler.enter0 s with result := some v }

theorem reach_preserved (H : Bytes → Bytes) (sc : Script) : Preserved H (Reach H sc) where
  onCore := fun h o => Reach.core o h
  onStore := fun _ m o => Reach.store m o
  onFill := fun _ o => Reach.fill o
  onAbort := fun _ e o => Reach.abort e o
  onSend := fun _ nx o => Reach.send nx o
  onEnter := fun _ i nx h1 h2 o => Reach.enter i nx h1 h2 o
  onEnter0 := fun _ o => Reach.enter0 o
  onOutput := fun _ v o => Reach.output v o

theorem reach_pres {H : Bytes → Bytes} {P : State → Prop} (hp : Preserved H P) (sc : Script) (h0 : P (state0 sc))
    (s : State) (r : Reach H sc s) : P s := by
  induction r with
  | start => exact h0
  | core _ h ih => exact hp.onCore h ih
  | store m _ ih => exact hp.onStore _ m ih
  | fill _ ih => exact hp.onFill _ ih
  | abort e _ ih => exact hp.onAbort _ e ih
  | send nx _ ih => exact hp.onSend _ nx ih
  | enter i nx h1 h2 _ ih => exact hp.onEnter _ i nx h1 h2 ih
  | enter0 _ ih => exact hp.onEnter0 _ ih
  | output v _ ih => exact hp.onOutput _ v ih

theorem init_reach (H : Bytes → Bytes) (sc : Script) : Reach H sc (init H sc) :=
  finalize_pres (reach_preserved H sc) _ _ Reach.start

theorem run_reach (H : Bytes → Bytes) (sc : Script) (calls : List Call) : Reach H sc (run H sc calls) :=
  run_pres (reach_preserved H sc) sc calls (init_reach H sc)

theorem reach_sc (H : Bytes → Bytes) (sc : Script) (s : State) (r : Reach H sc s) : s.sc = sc :=
  reach_pres (sc_preserved H sc) sc rfl s r

theorem reach_outOk (H : Bytes → Bytes) (sc : Script) (s : State) (r : Reach H sc s) : OutOk s :=
  reach_pres (outOk_preserved H) sc (fun _ hm => nomatch hm) s r

theorem run_sc (H : Bytes → Bytes) (sc : Script) (calls : List Call) : (run H sc calls).sc = sc :=
  reach_sc H sc _ (run_reach H sc calls)

theorem run_outOk (H : Bytes → Bytes) (sc : Script) (calls : List Call) : OutOk (run H sc calls) :=
  reach_outOk H sc _ (run_reach H sc calls)

end Mps.Handler
