import Mps.Frame
/-
  Framing (M1), core-only: big-endian numbers (`unbe` inverts `beN`), `unframe` reads a frame off the front of a
  stream, and a concatenation of encodings that can be read off the front determines the list (`flatMap_inj`).
-/
namespace Mps

theorem beN_length (k n : Nat) : (beN k n).length = k := by
  induction k generalizing n with
  | zero => simp [beN]
  | succ k ih => simp [beN, ih]

theorem unbe_append_single (bs : Bytes) (b : UInt8) : unbe (bs ++ [b]) = unbe bs * 256 + b.toNat := by
  simp [unbe, List.foldl_append]

theorem toNat_ofNat_mod (n : Nat) : (UInt8.ofNat (n % 256)).toNat = n % 256 := by
  simp [UInt8.toNat_ofNat']

theorem unbe_beN (k n : Nat) : unbe (beN k n) = n % 256 ^ k := by
  induction k generalizing n with
  | zero => simp [beN, unbe, Nat.mod_one]
  | succ k ih =>
    simp only [beN, unbe_append_single, ih]
    rw [toNat_ofNat_mod, Nat.pow_succ, Nat.mul_comm (256 ^ k) 256, Nat.mod_mul]
    omega

theorem unbe_be64 (n : Nat) (h : n < 2^64) : unbe (be64 n) = n := by
  unfold be64
  rw [unbe_beN]
  exact Nat.mod_eq_of_lt (by simpa using h)

theorem be64_length (n : Nat) : (be64 n).length = 8 := beN_length 8 n

theorem foldl_be (b : Bytes) (acc : Nat) :
    b.foldl (fun acc x => acc * 256 + x.toNat) acc = acc * 256 ^ b.length + unbe b := by
  induction b generalizing acc with
  | nil => simp [unbe]
  | cons x bs ih =>
    simp only [List.foldl_cons, unbe, List.length_cons]
    rw [ih, ih (0 * 256 + x.toNat), Nat.pow_succ]
    simp only [unbe, Nat.zero_mul, Nat.zero_add]
    rw [Nat.add_mul, Nat.mul_assoc, Nat.add_assoc, Nat.mul_comm 256]

theorem unbe_append (a b : Bytes) : unbe (a ++ b) = unbe a * 256 ^ b.length + unbe b := by
  unfold unbe
  rw [List.foldl_append, foldl_be]
  rfl

theorem unbe_cons (x : UInt8) (b : Bytes) : unbe (x :: b) = x.toNat * 256 ^ b.length + unbe b := by
  have := unbe_append [x] b
  simpa [unbe] using this

theorem unbe_lt (b : Bytes) : unbe b < 256 ^ b.length := by
  induction b with
  | nil => simp [unbe]
  | cons x bs ih =>
    rw [unbe_cons, List.length_cons, Nat.pow_succ]
    have hx : x.toNat < 256 := x.toNat_lt
    calc x.toNat * 256 ^ bs.length + unbe bs < x.toNat * 256 ^ bs.length + 256 ^ bs.length := by omega
      _ = (x.toNat + 1) * 256 ^ bs.length := by rw [Nat.add_mul, Nat.one_mul]
      _ ≤ 256 * 256 ^ bs.length := Nat.mul_le_mul_right _ (by omega)
      _ = 256 ^ bs.length * 256 := Nat.mul_comm _ _

theorem unbe_shiftRight_take (h : Bytes) (k : Nat) : unbe h >>> (8 * (h.length - k)) = unbe (h.take k) := by
  have hsplit := unbe_append (h.take k) (h.drop k)
  rw [List.take_append_drop, List.length_drop] at hsplit
  have hlt := unbe_lt (h.drop k)
  rw [List.length_drop] at hlt
  rw [hsplit, Nat.shiftRight_eq_div_pow, Nat.pow_mul, show (2 : Nat) ^ 8 = 256 from rfl, Nat.mul_comm,
    Nat.mul_add_div (Nat.pow_pos (by decide)), Nat.div_eq_of_lt hlt, Nat.add_zero]

theorem mul_add_unique {p x y a b : Nat} (ha : a < p) (hb : b < p) (h : x * p + a = y * p + b) : x = y ∧ a = b := by
  have hp : 0 < p := Nat.zero_lt_of_lt ha
  have h1 := (Nat.div_mod_unique hp).2 ⟨(by rw [Nat.mul_comm, Nat.add_comm] : a + p * x = x * p + a), ha⟩
  have h2 := (Nat.div_mod_unique hp).2 ⟨(by rw [Nat.mul_comm, Nat.add_comm] : b + p * y = y * p + b), hb⟩
  rw [h] at h1
  exact ⟨h1.1.symm.trans h2.1, h1.2.symm.trans h2.2⟩

theorem unbe_inj_len (a b : Bytes) (hl : a.length = b.length) (h : unbe a = unbe b) : a = b := by
  induction a generalizing b with
  | nil => exact (List.length_eq_zero_iff.1 hl.symm).symm
  | cons x as ih =>
    cases b with
    | nil => cases hl
    | cons y bs =>
      have hl' : as.length = bs.length := Nat.succ.inj hl
      rw [unbe_cons, unbe_cons, hl'] at h
      obtain ⟨hx, hu⟩ := mul_add_unique (hl' ▸ unbe_lt as) (unbe_lt bs) h
      rw [UInt8.toNat_inj.mp hx, ih bs hl' hu]

theorem beN_unbe (bs : Bytes) : beN bs.length (unbe bs) = bs := by
  apply unbe_inj_len
  · rw [beN_length]
  · rw [unbe_beN, Nat.mod_eq_of_lt (unbe_lt bs)]

theorem unframe_frame (i : Item) (h : i.WF) (rest : Bytes) :
    unframe (frame i ++ rest) = some (i, rest) := by
  obtain ⟨dom, data⟩ := i
  obtain ⟨h1, h2⟩ := h
  simp only at h1 h2
  have l1 := be64_length dom.length
  have l2 := be64_length data.length
  simp only [frame, unframe, List.cons_append, List.append_assoc]
  simp [lparen, rparen, l1, l2, unbe_be64 _ h1, unbe_be64 _ h2]

theorem frame_inj {i j : Item} {r r' : Bytes} (hi : i.WF) (hj : j.WF) (h : frame i ++ r = frame j ++ r') :
    i = j ∧ r = r' := by
  have e := congrArg unframe h
  rw [unframe_frame i hi, unframe_frame j hj] at e
  exact Prod.mk.inj (Option.some.inj e)

theorem frame_ne_nil (i : Item) : frame i ≠ [] := by simp [frame]

theorem frame_length_pos (i : Item) : 0 < (frame i).length := by simp [frame]

section
variable {α β : Type} {P : α → Prop} {enc : α → List β} (hne : ∀ a, P a → enc a ≠ [])
  (h : ∀ {a a' r r'}, P a → P a' → enc a ++ r = enc a' ++ r' → a = a' ∧ r = r')
  {xs ys : List α} (hx : ∀ a ∈ xs, P a) (hy : ∀ a ∈ ys, P a)
include hne h hx hy

/-- `h`: an encoding is told from what follows it, the shape of `frame_inj` and `lenPrefixed_inj` -/
theorem flatMap_prefix {tail : List β} (e : xs.flatMap enc ++ tail = ys.flatMap enc) :
    ∃ zs, ys = xs ++ zs ∧ tail = zs.flatMap enc := by
  induction xs generalizing ys with
  | nil => exact ⟨ys, rfl, e⟩
  | cons x xs ih =>
    rw [List.forall_mem_cons] at hx
    cases ys with
    | nil => exact absurd (List.append_eq_nil_iff.1 (List.append_eq_nil_iff.1 e).1).1 (hne x hx.1)
    | cons y ys =>
      rw [List.forall_mem_cons] at hy
      rw [List.flatMap_cons, List.flatMap_cons, List.append_assoc] at e
      obtain ⟨rfl, e'⟩ := h hx.1 hy.1 e
      obtain ⟨zs, rfl, ht⟩ := ih hx.2 hy.2 e'
      exact ⟨zs, rfl, ht⟩

theorem flatMap_inj (e : xs.flatMap enc = ys.flatMap enc) : xs = ys := by
  obtain ⟨zs, rfl, ht⟩ := flatMap_prefix hne h hx hy ((List.append_nil _).trans e)
  cases zs with
  | nil => rw [List.append_nil]
  | cons z zs =>
    exact absurd (List.append_eq_nil_iff.1 ht.symm).1 (hne z (hy z (List.mem_append_right _ List.mem_cons_self)))

end

theorem frames_eq_flatMap (xs : List Item) : frames xs = xs.flatMap frame := by
  induction xs with
  | nil => rfl
  | cons x xs ih => rw [frames, ih, List.flatMap_cons]

theorem frames_append (xs ys : List Item) : frames (xs ++ ys) = frames xs ++ frames ys := by
  simp only [frames_eq_flatMap, List.flatMap_append]

theorem frames_prefix_free (xs ys : List Item) (hx : ∀ i ∈ xs, i.WF) (hy : ∀ i ∈ ys, i.WF) (tail : Bytes)
    (h : frames xs ++ tail = frames ys) : ∃ zs, ys = xs ++ zs ∧ tail = frames zs := by
  simp only [frames_eq_flatMap] at h ⊢
  exact flatMap_prefix (fun i _ => frame_ne_nil i) frame_inj hx hy h

theorem frames_injective (xs ys : List Item) (hx : ∀ i ∈ xs, i.WF) (hy : ∀ i ∈ ys, i.WF)
    (h : frames xs = frames ys) : xs = ys := by
  rw [frames_eq_flatMap, frames_eq_flatMap] at h
  exact flatMap_inj (fun i _ => frame_ne_nil i) frame_inj hx hy h

theorem transcript_injective (xs ys : List Item) (hx : ∀ i ∈ xs, i.WF) (hy : ∀ i ∈ ys, i.WF)
    (h : transcript xs = transcript ys) : xs = ys :=
  frames_injective xs ys hx hy (List.append_cancel_left h)

theorem hash_transcript_inj (H : Bytes → Bytes) (xs ys : List Item) (hx : ∀ i ∈ xs, i.WF) (hy : ∀ i ∈ ys, i.WF)
    (h : H (transcript xs) = H (transcript ys)) :
    xs = ys ∨ (transcript xs ≠ transcript ys ∧ H (transcript xs) = H (transcript ys)) :=
  (Decidable.em (transcript xs = transcript ys)).imp (transcript_injective xs ys hx hy) fun e => ⟨e, h⟩

-- `htail` is not needed: `frames_prefix_free` holds for any tail
set_option linter.unusedVariables false in
theorem frames_prefix (xs ys : List Item) (hx : ∀ i ∈ xs, i.WF) (hy : ∀ i ∈ ys, i.WF)
    (tail : Bytes) (h : frames xs ++ tail = frames ys) (htail : tail = [] ∨ ∃ zs, (∀ i ∈ zs, i.WF) ∧ tail = frames zs) :
    ∃ zs, ys = xs ++ zs :=
  (frames_prefix_free xs ys hx hy tail h).imp fun _ h => h.1

end Mps
