import MpsProofs.Typed
import MpsProofs.Forall2
import Mps.Commit
/-
  `encode` on the typed values with a fixed domain tag is injective, and `encodeList` with it: the tag
  determines the Go type (`fixedTags` has no duplicates), and within one type the data determines the value.
  `decommitWith_iff` says what `Decommit` checks; binding is then injectivity of the transcript
  (`decommitWith_binding`). Core and `List.Forall₂` of Batteries.
-/
namespace Mps

/-- the domain tags of the Go types with a fixed tag, as `encode` writes them -/
def fixedTags : List Bytes :=
  [str "[]byte", str "big.Int", str "ID", str "IDSlice", str "RID", str "Threshold", str "Round Number",
   str "Empty Message", str "Signature Message", str "Commitment", str "Decommitment",
   str "*curve.Secp256k1Point", str "*curve.Secp256k1Scalar", str "Paillier Ciphertext", str "Paillier PublicKey",
   str "Pedersen Parameters", str "ElGamal Ciphertext"]

theorem fixedTags_nodup : fixedTags.Nodup := by decide +kernel

theorem fixedTags_length : ∀ t ∈ fixedTags, t.length < 2 ^ 64 := by decide +kernel

/-- where the tag of a value stands in `fixedTags`; beyond its end for the values that have none -/
def TVal.kind : TVal → Nat
  | .bytes _ => 0 | .bigint _ _ => 1 | .id _ => 2 | .ids _ => 3 | .rid _ => 4 | .thr _ => 5 | .rnd _ => 6
  | .sigmsgNil => 7 | .sigmsg _ => 8 | .com _ => 9 | .decom _ => 10 | .point _ => 11 | .scalar _ => 12
  | .ct _ => 13 | .pk _ => 14 | .ped _ _ _ => 15 | .elg _ _ => 16 | .nilv => 17 | .bwd _ _ => 18 | .opaque _ _ => 19

theorem encode_dom (v : TVal) (hf : v.fixed = true) : (encode v).map (·.dom) = fixedTags[v.kind]? := by
  cases v
  case bwd | «opaque» => cases hf
  all_goals
    simp only [encode, TVal.kind, fixedTags, Option.map_some, Option.map_none, List.getElem?_cons_succ,
      List.getElem?_cons_zero, List.getElem?_nil]

theorem encode_dom_mem (v : TVal) (hf : v.fixed = true) (i : Item) (e : encode v = some i) : i.dom ∈ fixedTags := by
  have h := encode_dom v hf
  rw [e] at h
  exact List.mem_of_getElem? h.symm

theorem kind_eq (a b : TVal) (fa : a.fixed = true) (fb : b.fixed = true) (i : Item)
    (ea : encode a = some i) (eb : encode b = some i) : a.kind = b.kind := by
  have ha := encode_dom a fa
  have hb := encode_dom b fb
  rw [ea] at ha; rw [eb] at hb
  exact (List.getElem?_inj (List.getElem?_eq_some_iff.1 ha.symm).1 fixedTags_nodup).1 (ha.symm.trans hb)

theorem encode_injective (a b : TVal) (ha : a.WF) (hb : b.WF) (fa : a.fixed = true) (fb : b.fixed = true)
    (i : Item) (ea : encode a = some i) (eb : encode b = some i) : a = b := by
  have hk := kind_eq a b fa fb i ea eb
  have e : encode a = encode b := ea.trans eb.symm
  -- `hk` leaves the pairs of one constructor
  cases a <;> cases b <;> cases hk
  all_goals simp only [encode, Option.some.injEq, Item.mk.injEq, true_and] at e
  all_goals simp only [TVal.WF, maxLen] at ha hb
  case nilv.nilv | sigmsgNil.sigmsgNil => rfl
  case bwd.bwd | «opaque».«opaque» => cases fa
  case bytes.bytes | id.id | rid.rid | sigmsg.sigmsg | com.com | decom.decom | point.point | scalar.scalar => rw [e]
  case bigint.bigint => obtain ⟨h1, h2⟩ := gobBigInt_inj _ _ _ _ e; rw [h1, h2]
  case ids.ids => rw [idsData_inj _ _ ha.2.1 hb.2.1 e]
  case thr.thr => rw [beN_inj 4 _ _ ha hb e]
  case rnd.rnd => rw [beN_inj 8 _ _ ha hb e]
  case ct.ct => rw [beN_inj 512 _ _ ha hb e]
  case pk.pk => rw [natBytes_inj _ _ e]
  case ped.ped =>
    have h1 := List.append_inj' e (by rw [beN_length, beN_length])
    have h2 := List.append_inj h1.1 (by rw [beN_length, beN_length])
    rw [beN_inj 256 _ _ ha.1 hb.1 h2.1, beN_inj 256 _ _ ha.2.1 hb.2.1 h2.2, beN_inj 256 _ _ ha.2.2 hb.2.2 h1.2]
  case elg.elg =>
    have h1 := List.append_inj e (ha.1.trans hb.1.symm)
    rw [h1.1, h1.2]

theorem encode_wf (a : TVal) (ha : a.WF) (i : Item) (ea : encode a = some i) : i.WF := by
  have hd : a.fixed = true → i.dom.length < 2 ^ 64 := fun hf => fixedTags_length _ (encode_dom_mem a hf i ea)
  -- not `cases ea`: slow to check
  cases a <;> simp only [encode, Option.some.injEq, reduceCtorEq] at ea <;> subst ea <;> simp only [TVal.WF, maxLen] at ha
  case bwd | «opaque» => exact ha
  all_goals refine ⟨hd rfl, ?_⟩
  all_goals simp only [List.length_nil, List.length_append, beN_length, be32, be64]
  all_goals omega

theorem encodeList_eq_some (vs : List TVal) (is : List Item) :
    encodeList vs = some is ↔ List.Forall₂ (fun v i => encode v = some i) vs is :=
  eq_some_iff_forall₂ (encs := encodeList) rfl
    (fun v vs => by rw [encodeList]; cases encode v <;> cases encodeList vs <;> rfl) vs is

theorem encodeList_wf (vs : List TVal) (hv : ∀ v ∈ vs, v.WF) (is : List Item)
    (e : encodeList vs = some is) : ∀ i ∈ is, i.WF :=
  forall₂_right ((encodeList_eq_some vs is).1 e) hv encode_wf

theorem encodeList_injective (vs ws : List TVal) (hv : ∀ v ∈ vs, v.WF ∧ v.fixed = true)
    (hw : ∀ v ∈ ws, v.WF ∧ v.fixed = true) (is : List Item)
    (e1 : encodeList vs = some is) (e2 : encodeList ws = some is) : vs = ws :=
  forall₂_inj ((encodeList_eq_some vs is).1 e1) ((encodeList_eq_some ws is).1 e2) hv hw
    fun a b ha hb i => encode_injective a b ha.1 hb.1 ha.2 hb.2 i

theorem decommitWith_iff (H : Bytes → Bytes) (ctx : List Item) (c d : Bytes) (vals : List TVal) :
    decommitWith H ctx c d vals = true ↔ validLen c 64 = true ∧ validLen d 32 = true ∧
      ∃ is, encodeList vals = some is ∧ digestWith H (ctx ++ is ++ [decomItem d]) = c := by
  unfold decommitWith
  cases validLen c 64 <;> cases validLen d 32 <;> cases encodeList vals <;> simp

theorem validLen_iff (b : Bytes) (n : Nat) : validLen b n = true ↔ b.length = n ∧ allZero b = false := by
  simp [validLen]

theorem opening_wf {ctx is : List Item} {vals : List TVal} {d : Bytes} (hctx : ∀ i ∈ ctx, i.WF)
    (hv : ∀ v ∈ vals, v.WF) (e : encodeList vals = some is) (hd : validLen d 32 = true) :
    ∀ i ∈ ctx ++ is ++ [decomItem d], i.WF := by
  have hdl : d.length < maxLen := by rw [((validLen_iff d 32).1 hd).1]; decide
  exact List.forall_mem_append.2 ⟨List.forall_mem_append.2 ⟨hctx, encodeList_wf vals hv is e⟩,
    List.forall_mem_singleton.2 (encode_wf (.decom d) hdl _ rfl)⟩

/-- two accepted openings of one commitment: the same items and decommitment, or a collision of `H` on the two
    transcripts hashed -/
theorem decommitWith_binding (H : Bytes → Bytes) {ctx : List Item} (hctx : ∀ i ∈ ctx, i.WF) {c d d' : Bytes}
    {vals vals' : List TVal} (hv : ∀ v ∈ vals, v.WF) (hv' : ∀ v ∈ vals', v.WF)
    (h : decommitWith H ctx c d vals = true) (h' : decommitWith H ctx c d' vals' = true) :
    ∃ is is', encodeList vals = some is ∧ encodeList vals' = some is' ∧
      ((is = is' ∧ d = d') ∨
        (transcript (ctx ++ is ++ [decomItem d]) ≠ transcript (ctx ++ is' ++ [decomItem d']) ∧
          H (transcript (ctx ++ is ++ [decomItem d])) = H (transcript (ctx ++ is' ++ [decomItem d'])))) := by
  obtain ⟨-, hd, is, e, hc⟩ := (decommitWith_iff H ctx c d vals).1 h
  obtain ⟨-, hd', is', e', hc'⟩ := (decommitWith_iff H ctx c d' vals').1 h'
  refine ⟨is, is', e, e', (hash_transcript_inj H _ _ (opening_wf hctx hv e hd) (opening_wf hctx hv' e' hd')
    (hc.trans hc'.symm)).imp_left fun heq => ?_⟩
  rw [List.append_assoc, List.append_assoc] at heq
  have h3 := List.append_inj' (List.append_cancel_left heq) rfl
  exact ⟨h3.1, (Item.mk.inj (List.cons.inj h3.2).1).2⟩

end Mps
