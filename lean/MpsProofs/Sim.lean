import MpsProofs.Echo
/-
  `Sim`: handler states that are equal up to the order in which the two message queues were filled. Every function of
  the model respects it (`apply_sim`), for one reason: the model reads a queue only through `lookup` and through `∈`
  (the `all` of `checkBroadcastHash`), which is what `QEq` equates, and writes it only through `store`. So every lemma
  rewrites the reads of its function from the one state to the other and goes through the function's cases once, with
  the lemmas of the functions it calls. Core-only.
-/
namespace Mps.Handler

def QEq (q q' : List (Nat × Bytes × Msg)) : Prop :=
  (∀ e, e ∈ q ↔ e ∈ q') ∧ (∀ r id, lookup q r id = lookup q' r id)

theorem QEq.refl (q : List (Nat × Bytes × Msg)) : QEq q q := ⟨fun _ => Iff.rfl, fun _ _ => rfl⟩
theorem QEq.symm {q q' : List (Nat × Bytes × Msg)} (h : QEq q q') : QEq q' q :=
  ⟨fun e => (h.1 e).symm, fun r id => (h.2 r id).symm⟩
theorem QEq.trans {q q' q'' : List (Nat × Bytes × Msg)} (h : QEq q q') (h' : QEq q' q'') : QEq q q'' :=
  ⟨fun e => (h.1 e).trans (h'.1 e), fun r id => (h.2 r id).trans (h'.2 r id)⟩

theorem QEq.append {q q' : List (Nat × Bytes × Msg)} (h : QEq q q') (x : List (Nat × Bytes × Msg)) :
    QEq (q ++ x) (q' ++ x) := by
  refine ⟨fun e => ?_, fun r id => ?_⟩
  · simp only [List.mem_append, h.1 e]
  · rw [lookup_append, lookup_append, h.2]

structure Sim (a b : State) : Prop where
  sc : a.sc = b.sc
  idx : a.idx = b.idx
  cur : a.cur = b.cur
  reached : a.reached = b.reached
  bh : a.bh = b.bh
  err : a.err = b.err
  result : a.result = b.result
  out : a.out = b.out
  closes : a.closes = b.closes
  acc : a.acc = b.acc
  accused : a.accused = b.accused
  msgs : QEq a.msgs b.msgs
  bc : QEq a.bc b.bc

theorem Sim.refl (a : State) : Sim a a :=
  ⟨rfl, rfl, rfl, rfl, rfl, rfl, rfl, rfl, rfl, rfl, rfl, QEq.refl _, QEq.refl _⟩
theorem Sim.symm {a b : State} (h : Sim a b) : Sim b a :=
  ⟨h.sc.symm, h.idx.symm, h.cur.symm, h.reached.symm, h.bh.symm, h.err.symm, h.result.symm, h.out.symm,
   h.closes.symm, h.acc.symm, h.accused.symm, h.msgs.symm, h.bc.symm⟩
theorem Sim.trans {a b c : State} (h : Sim a b) (h' : Sim b c) : Sim a c :=
  ⟨h.sc.trans h'.sc, h.idx.trans h'.idx, h.cur.trans h'.cur, h.reached.trans h'.reached, h.bh.trans h'.bh,
   h.err.trans h'.err, h.result.trans h'.result, h.out.trans h'.out, h.closes.trans h'.closes, h.acc.trans h'.acc,
   h.accused.trans h'.accused, h.msgs.trans h'.msgs, h.bc.trans h'.bc⟩

theorem Sim.of_sameCore {a b a' b' : State} (h : Sim a b) (ha : SameCore a a') (hb : SameCore b b')
    (hacc : a'.acc = b'.acc) (haccu : a'.accused = b'.accused) : Sim a' b' := by
  rw [sameCore_iff.mp ha, sameCore_iff.mp hb]
  exact { h with acc := hacc, accused := haccu }

theorem Sim.qOf {a b : State} (h : Sim a b) (k : Bool) : QEq (qOf k a) (qOf k b) := by
  cases k
  · exact h.msgs
  · exact h.bc

structure CurEq (a b : State) : Prop where
  sc : a.sc = b.sc
  idx : a.idx = b.idx
  cur : a.cur = b.cur
  bcL : ∀ id, lookup a.bc a.cur id = lookup b.bc a.cur id
  msgsL : ∀ id, lookup a.msgs a.cur id = lookup b.msgs a.cur id

theorem Sim.curEq {a b : State} (h : Sim a b) : CurEq a b :=
  ⟨h.sc, h.idx, h.cur, fun id => h.bc.2 _ id, fun id => h.msgs.2 _ id⟩

theorem store_curEq (s : State) (m : Msg) (h : m.rnd ≠ s.cur) : CurEq (store s m) s := by
  have hk : ∀ id, (m.rnd == s.cur && m.frm == id) = false := by
    intro id; simp only [Bool.and_eq_false_iff, beq_eq_false_iff_ne]; exact Or.inl h
  refine ⟨store_sc s m, (store_idx s m).1, (store_idx s m).2, ?_, ?_⟩
  · intro id
    rw [(store_idx s m).2, lookup_store_bc', hk]; simp
  · intro id
    rw [(store_idx s m).2, lookup_store_msgs', hk]; simp

theorem curSpec_curEq {a b : State} (h : CurEq a b) : curSpec a = curSpec b := by
  unfold curSpec; rw [h.sc, h.idx]

theorem receivedAllB_curEq (H : Bytes → Bytes) {a b : State} (h : CurEq a b) : receivedAllB H a = receivedAllB H b := by
  have e1 : (fun id => (lookup a.bc a.cur id).isSome) = fun id => (lookup b.bc a.cur id).isSome :=
    funext fun id => by rw [h.bcL]
  have e2 : (fun id => (lookup a.msgs a.cur id).isSome) = fun id => (lookup b.msgs a.cur id).isSome :=
    funext fun id => by rw [h.msgsL]
  rw [receivedAllB_eq, receivedAllB_eq, curSpec_curEq h, e1, e2, h.sc, h.cur]

theorem fillBh_bh_congr (H : Bytes → Bytes) {a b : State} (hsc : a.sc = b.sc) (hidx : a.idx = b.idx)
    (hcur : a.cur = b.cur) (hbh : a.bh = b.bh) (hbc : ∀ id, lookup a.bc a.cur id = lookup b.bc a.cur id) :
    (fillBh H a).bh = (fillBh H b).bh := by
  have hn : newBh H a = newBh H b := by
    unfold newBh curSpec
    rw [echoHash_ext H a.sc a.bc b.bc a.cur (fun id _ => hbc id), hsc, hidx, hcur, hbh]
  rw [fillBh_newBh, fillBh_newBh, hn]
  cases newBh H b
  · exact hbh
  · show a.bh ++ _ = b.bh ++ _
    rw [hbh, hcur]

theorem sameView_sim {a b : State} (h : Sim a b) (m : Msg) : sameView a m = sameView b m := by
  unfold sameView; rw [h.bh]

theorem terminal_sim {a b : State} (h : Sim a b) : terminal a = terminal b := by
  unfold terminal; rw [h.err, h.result]

theorem canAccept_sim {a b : State} (h : Sim a b) (m : Msg) : canAccept a m = canAccept b m := by
  unfold canAccept; rw [h.sc, h.cur]

theorem duplicate_sim {a b : State} (h : Sim a b) (m : Msg) : duplicate a m = duplicate b m := by
  unfold duplicate; rw [h.sc, h.bc.2, h.msgs.2]

theorem checkBroadcastHash_sim {a b : State} (h : Sim a b) : checkBroadcastHash a = checkBroadcastHash b := by
  rw [Bool.eq_iff_iff, checkBroadcastHash_iff, checkBroadcastHash_iff, h.bh, h.cur]
  simp only [h.msgs.1, h.bc.1]

theorem protoFinalize_sim {a b : State} (h : Sim a b) : protoFinalize a = protoFinalize b := by
  unfold protoFinalize
  rw [h.sc, h.cur, h.accused, h.idx, h.acc]

theorem emitFor_sim {a b : State} (h : Sim a b) (nx : RoundSpec) : emitFor a nx = emitFor b nx := by
  unfold emitFor
  rw [h.sc, h.bh]

theorem setQ_sim {a b : State} (h : Sim a b) (k : Bool) {q q' : List (Nat × Bytes × Msg)} (hq : QEq q q') :
    Sim (setQ k a q) (setQ k b q') := by
  cases k
  · exact { h with msgs := hq }
  · exact { h with bc := hq }

theorem store_sim {a b : State} (h : Sim a b) (m : Msg) : Sim (store a m) (store b m) := by
  rw [store_eq, store_eq, h.sc, (h.qOf _).2]
  split
  · exact setQ_sim h _ ((h.qOf _).append _)
  · exact h

theorem abort_sim {a b : State} (h : Sim a b) (e : Option ErrKind) : Sim (abort a e) (abort b e) := by
  cases e with
  | none => exact { h with closes := by simp only [abort, h.closes] }
  | some k =>
    exact { h with closes := by simp only [abort, h.closes], err := rfl, out := by simp only [abort, h.out, h.sc] }

theorem enter_sim {a b : State} (h : Sim a b) (i : Nat) (nx : RoundSpec) : Sim (enter a i nx) (enter b i nx) :=
  { h with reached := by simp only [enter, h.reached], cur := rfl, idx := rfl }

theorem enter0_sim {a b : State} (h : Sim a b) : Sim (enter0 a) (enter0 b) :=
  { h with reached := by simp only [enter0, h.reached], cur := rfl }

theorem output_sim {a b : State} (h : Sim a b) (v : Nat) :
    Sim { enter0 a with result := some v } { enter0 b with result := some v } :=
  { enter0_sim h with result := rfl }

theorem withOut_sim {a b : State} (h : Sim a b) (o : List Msg) : Sim { a with out := o } { b with out := o } :=
  { h with out := rfl }

theorem storeContent_sim {a b : State} (h : Sim a b) (m : Msg) (c : Content) :
    Sim (storeContent a m c) (storeContent b m c) :=
  { h with acc := by simp only [storeContent, h.acc], accused := by simp only [storeContent, h.accused] }

theorem fillBh_sim (H : Bytes → Bytes) {a b : State} (h : Sim a b) : Sim (fillBh H a) (fillBh H b) := by
  rw [fillBh_eq H a, fillBh_eq H b, fillBh_bh_congr H h.sc h.idx h.cur h.bh h.curEq.bcL]
  exact { h with bh := rfl }

theorem foldStore_sim (ems : List Msg) {a b : State} (h : Sim a b) :
    Sim (ems.foldl (fun st m => if m.bcast then store st m else st) a)
        (ems.foldl (fun st m => if m.bcast then store st m else st) b) :=
  List.foldl_rel h fun m _ _ _ hc => by
    split
    · exact store_sim hc m
    · exact hc

theorem sendAll_sim {a b : State} (h : Sim a b) (ems : List Msg) : Sim (sendAll a ems) (sendAll b ems) := by
  have := foldStore_sim ems h
  simp only [sendAll]
  rw [this.out]
  exact withOut_sim this _

inductive VSim : VRes → VRes → Prop
  | ok {a b : State} : Sim a b → VSim (.ok a) (.ok b)
  | bad : VSim .bad .bad
  | echo : VSim .echo .echo

theorem verifyMessage_sim {a b : State} (h : Sim a b) (m : Msg) : VSim (verifyMessage a m) (verifyMessage b m) := by
  unfold verifyMessage
  rw [h.reached, curSpec_curEq h.curEq, h.bc.2, sameView_sim h, roundStoreP2P_eq, roundStoreP2P_eq]
  split
  · exact .ok h
  · split
    · exact .ok h
    · split
      · exact .echo
      · split
        · exact .bad
        · generalize m.dec.filter _ = c
          cases c with
          | none => exact .bad
          | some c => exact .ok (storeContent_sim h m c)

theorem verifyBroadcastMessage_sim {a b : State} (h : Sim a b) (m : Msg) :
    VSim (verifyBroadcastMessage a m) (verifyBroadcastMessage b m) := by
  unfold verifyBroadcastMessage
  rw [h.reached, curSpec_curEq h.curEq, sameView_sim h, roundStoreBcast_eq, roundStoreBcast_eq]
  split
  · exact .ok h
  · split
    · exact .echo
    · split
      · exact .bad
      · generalize m.dec.filter _ = c
        cases c with
        | none => exact .bad
        | some c =>
          have hs := storeContent_sim h m c
          simp only [Option.map_some]
          rw [curSpec_curEq hs.curEq, hs.msgs.2]
          split
          · exact .ok hs
          · split
            · exact .ok hs
            · exact verifyMessage_sim hs _

inductive PSim : State × Option Fail → State × Option Fail → Prop
  | mk {a b : State} (f : Option Fail) : Sim a b → PSim (a, f) (b, f)

theorem failOf_sim {r r' : VRes} (hv : VSim r r') (frm : Bytes) {a b : State} (h : Sim a b) :
    PSim (failOf r frm a) (failOf r' frm b) := by
  cases hv with
  | ok hv => exact .mk _ hv
  | bad => exact .mk _ h
  | echo => exact .mk _ h

theorem replayStep_sim (sp : RoundSpec) (n : Nat) {x y : State × Option Fail} (h : PSim x y) (id : Bytes) :
    PSim (replayStep sp n x id) (replayStep sp n y id) := by
  obtain ⟨f, hs⟩ := h
  cases f with
  | some c => exact .mk _ hs
  | none =>
    simp only [replayStep]
    rw [hs.sc, hs.bc.2, hs.msgs.2]
    split
    · split
      · exact .mk _ hs
      · split
        · exact .mk _ hs
        · exact failOf_sim (verifyBroadcastMessage_sim hs _) _ hs
    · split
      · exact .mk _ hs
      · exact failOf_sim (verifyMessage_sim hs _) _ hs

theorem replayQueued_sim {a b : State} (h : Sim a b) : PSim (replayQueued a) (replayQueued b) := by
  unfold replayQueued
  rw [curSpec_curEq h.curEq, h.cur, h.sc]
  exact List.foldl_rel (.mk _ h) fun id _ _ _ hxy => replayStep_sim _ _ hxy id

inductive StSim : Step → Step → Prop
  | halt {a b : State} : Sim a b → StSim (.halt a) (.halt b)
  | more {a b : State} : Sim a b → StSim (.more a) (.more b)

theorem finalizeStep_sim (H : Bytes → Bytes) {a b : State} (h : Sim a b) :
    StSim (finalizeStep H a) (finalizeStep H b) := by
  have h1 := fillBh_sim H h
  unfold finalizeStep
  simp only
  rw [receivedAllB_curEq H h.curEq, checkBroadcastHash_sim h1, protoFinalize_sim h1]
  split
  · exact .halt h1
  · split
    · exact .halt (abort_sim h1 _)
    · split
      · exact .halt (abort_sim h1 _)
      · rw [h1.reached]
        split
        · exact .halt h1
        · exact .halt (abort_sim (enter0_sim h1) _)
      · rw [h1.reached]
        split
        · exact .halt h1
        · exact .halt (abort_sim (output_sim h1 _) _)
      · next i nx _ =>
        rw [emitFor_sim h1]
        have h3 := sendAll_sim h1 (emitFor (fillBh H b) nx)
        rw [h3.reached]
        split
        · exact .halt h3
        · match replayQueued (enter (sendAll (fillBh H a) (emitFor (fillBh H b) nx)) i nx),
            replayQueued (enter (sendAll (fillBh H b) (emitFor (fillBh H b) nx)) i nx),
            replayQueued_sim (enter_sim h3 i nx) with
          | _, _, .mk (some f) hs => exact .halt (abort_sim hs _)
          | _, _, .mk none hs => exact .more hs

theorem finalize_sim (H : Bytes → Bytes) (fuel : Nat) {a b : State} (h : Sim a b) :
    Sim (finalize H fuel a) (finalize H fuel b) := by
  induction fuel generalizing a b with
  | zero => exact h
  | succ fuel ih =>
    unfold finalize
    match finalizeStep H a, finalizeStep H b, finalizeStep_sim H h with
    | _, _, .halt h' => exact h'
    | _, _, .more h' => exact ih h'

theorem acceptStored_sim (H : Bytes → Bytes) {a b : State} (h : Sim a b) (m : Msg) :
    Sim (acceptStored H a m) (acceptStored H b m) := by
  unfold acceptStored
  rw [h.cur]
  split
  · exact h
  · have hv : VSim (if m.bcast then verifyBroadcastMessage a m else verifyMessage a m)
        (if m.bcast then verifyBroadcastMessage b m else verifyMessage b m) := by
      split
      · exact verifyBroadcastMessage_sim h m
      · exact verifyMessage_sim h m
    match (if m.bcast then verifyBroadcastMessage a m else verifyMessage a m),
      (if m.bcast then verifyBroadcastMessage b m else verifyMessage b m), hv with
    | _, _, .ok hv => simp only; rw [hv.sc]; exact finalize_sim H _ hv
    | _, _, .bad => exact abort_sim h _
    | _, _, .echo => exact abort_sim h _

theorem accept_sim (H : Bytes → Bytes) {a b : State} (h : Sim a b) (m : Msg) : Sim (accept H a m) (accept H b m) := by
  unfold accept
  rw [canAccept_sim h, terminal_sim h, duplicate_sim h]
  split
  · exact h
  · split
    · exact abort_sim h _
    · exact acceptStored_sim H (store_sim h m) m

theorem apply_sim (H : Bytes → Bytes) {a b : State} (h : Sim a b) (c : Call) : Sim (apply H a c) (apply H b c) := by
  cases c
  case accept m => exact accept_sim H h m
  case stop =>
    show Sim (stop a) (stop b)
    unfold stop
    rw [terminal_sim h]
    split
    · exact h
    · exact abort_sim h _
  all_goals exact h

end Mps.Handler
