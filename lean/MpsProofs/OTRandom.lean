import Mathlib.Algebra.Module.Defs
import Mathlib.Tactic.Abel
import Mps.OT.Random
import MpsProofs.OTBits
/-
  random.go: pad agreement and completeness of the challenge / response / decommit exchange,
  for ANY group satisfying the module laws, ANY hash, ANY marshalling with `dec ∘ enc = some`.
  No proof calls `abel`; Mathlib.Tactic.Abel stays imported because with it `2 ^ otParam` in `corre_setup_rel` elaborates
  through Mathlib's `Monoid.npow` and without it through core's `instPowNat`.
-/
namespace Mps.OT

variable {F G : Type} [CommRing F] [AddCommGroup G] [Module F G]

def lawfulGroup (base : G) (enc : G → Bytes) (dec : Bytes → Option G) : GroupOps F G where
  add := (· + ·)
  sub := (· - ·)
  smul := (· • ·)
  base := base
  enc := enc
  dec := dec

variable (base : G) (enc : G → Bytes) (dec : Bytes → Option G)

theorem rotSendRound1_enc (hdec : ∀ P, dec (enc P) = some P) (H : Bytes → Nat) (s : ROTSendSetup F G) (A : G) :
    rotSendRound1 (lawfulGroup base enc dec) H s (enc A) =
      some (H (blk (H (blk (H (enc (s.b • A - s.bB)))))) ^^^ H (blk (H (blk (H (enc (s.b • A)))))),
        { rand0 := H (enc (s.b • A)), rand1 := H (enc (s.b • A - s.bB)),
          decommit0 := H (blk (H (enc (s.b • A)))), decommit1 := H (blk (H (enc (s.b • A - s.bB)))),
          hDecommit0 := H (blk (H (blk (H (enc (s.b • A)))))) }) := by
  simp [rotSendRound1, lawfulGroup, hdec]

/-- the receiver's pad is H(a·B); the sender's are rand0 = H(b·A) and rand1 = H(b·A − b·B) -/
theorem random_ot_pad_agree (hdec : ∀ P, dec (enc P) = some P) (H : Bytes → Nat) (b a : F) (choice : Bool) :
    let Gp : GroupOps F G := lawfulGroup base enc dec
    let s := rotSetupSend Gp b
    let r1 := rotRecvRound1 Gp H s.B choice a
    ∃ ch st, rotSendRound1 Gp H s r1.1 = some (ch, st) ∧
      r1.2 = (if choice then st.rand1 else st.rand0) ∧
      ch = H (blk (H (blk st.rand1))) ^^^ H (blk (H (blk st.rand0))) ∧
      st.hDecommit0 = H (blk (H (blk st.rand0))) ∧
      st.decommit0 = H (blk st.rand0) ∧ st.decommit1 = H (blk st.rand1) := by
  intro Gp s r1
  cases choice
  · -- the receiver sent A = a·G
    exact ⟨_, _, rotSendRound1_enc base enc dec hdec H s (a • base),
      congrArg (fun P => H (enc P)) (smul_comm a b base), rfl, rfl, rfl, rfl⟩
  · -- the receiver sent A = a·G + B
    refine ⟨_, _, rotSendRound1_enc base enc dec hdec H s (a • base + b • base),
      congrArg (fun P => H (enc P)) ?_, rfl, rfl, rfl, rfl⟩
    show a • (b • base) = b • (a • base + b • base) - b • (b • base)
    rw [smul_add, add_sub_cancel_right, smul_comm]

theorem rotSendRound2_accept (st : ROTSenderState) :
    rotSendRound2 st st.hDecommit0 = some ((st.decommit0, st.decommit1), (st.rand0, st.rand1)) := by
  simp [rotSendRound2]

theorem rotRecvRound3_accept (H : Bytes → Nat) (choice : Bool) (r0 r1 : Nat) :
    rotRecvRound3 H choice (if choice then r1 else r0)
      (H (blk (H (blk r1))) ^^^ H (blk (H (blk r0))))
      (H (blk (H (blk (if choice then r1 else r0))))) (H (blk r0)) (H (blk r1))
      = some (if choice then r1 else r0) := by
  unfold rotRecvRound3
  rw [if_neg (by rw [Nat.xor_comm]; simp)]
  rw [Nat.xor_comm (H (blk (H (blk r0)))) (H (blk (H (blk r1)))), xor_maskBit_xor]
  cases choice <;> simp

theorem rotRecvRound2_honest (H : Bytes → Nat) (choice : Bool) (r0 r1 : Nat) :
    rotRecvRound2 H choice (if choice then r1 else r0) (H (blk (H (blk r1))) ^^^ H (blk (H (blk r0))))
      = (H (blk (H (blk r0))), H (blk (H (blk (if choice then r1 else r0))))) := by
  unfold rotRecvRound2
  cases choice
  · simp
  · simp only [maskBit_true, if_true]
    rw [xor_cancel_left]

theorem random_ot_response_complete (hdec : ∀ P, dec (enc P) = some P) (H : Bytes → Nat) (b a : F)
    (choice : Bool) :
    let Gp : GroupOps F G := lawfulGroup base enc dec
    ∃ t, rotRun Gp H (rotSetupSend Gp b) choice a = some t ∧
      t.randChoice = (if choice then t.rand1 else t.rand0) := by
  intro Gp
  obtain ⟨ch, st, h1, h2, h3, h4, h5, h6⟩ := random_ot_pad_agree base enc dec hdec H b a choice
  -- each round of `rotRun` is rewritten by its `_honest` / `_accept` lemma; `simp only` then reduces the `match`
  unfold rotRun
  generalize hr1 : rotRecvRound1 Gp H (rotSetupSend Gp b).B choice a = r1 at h1 h2
  simp only at h1 h2 ⊢
  rw [h1]
  simp only
  rw [h2, h3, rotRecvRound2_honest]
  rw [← h4, rotSendRound2_accept]
  simp only
  rw [h5, h6, h4, rotRecvRound3_accept]
  exact ⟨_, rfl, rfl⟩

theorem correSetupTraces_ok (hdec : ∀ P, dec (enc P) = some P) (Hn : Nat → Bytes → Nat) (zero b : F)
    (delta : Nat) (as : List F) (n : Nat) :
    ∃ ts, correSetupTraces (lawfulGroup base enc dec) Hn zero (rotSetupSend (lawfulGroup base enc dec) b) delta as n
        = some ts ∧ ts.length = n ∧
      ∀ i, i < n → (ts.map (·.randChoice)).getD i 0 =
        if delta.testBit i then (ts.map (·.rand1)).getD i 0 else (ts.map (·.rand0)).getD i 0 := by
  induction n with
  | zero => exact ⟨[], rfl, rfl, fun i hi => absurd hi (Nat.not_lt_zero i)⟩
  | succ n ih =>
    obtain ⟨ts, h1, h2, h3⟩ := ih
    obtain ⟨t, ht1, ht2⟩ := random_ot_response_complete base enc dec hdec (Hn n) b (as.getD n zero) (bitAt n delta)
    refine ⟨ts ++ [t], ?_, by simp [h2], ?_⟩
    · simp only [correSetupTraces, h1, ht1]
    · intro i hi
      simp only [List.map_append, List.map_cons, List.map_nil, getD_concat, List.length_map, h2]
      by_cases hlt : i < n
      · simp only [hlt, if_true]
        exact h3 i hlt
      · obtain rfl : i = n := by omega
        simp only [Nat.lt_irrefl, if_false, if_true]
        exact ht2

theorem corre_setup_rel (hdec : ∀ P, dec (enc P) = some P) (Hn : Nat → Bytes → Nat) (zero b : F)
    (delta : Nat) (hd : delta < 2 ^ otParam) (as : List F) :
    ∃ ss rs, correSetup (lawfulGroup base enc dec) Hn zero b delta as = some (ss, rs) ∧ SetupRel ss rs := by
  obtain ⟨ts, h1, _, h3⟩ := correSetupTraces_ok base enc dec hdec Hn zero b delta as otParam
  refine ⟨{ delta := delta, kDelta := ts.map (·.randChoice) },
    { k0 := ts.map (·.rand0), k1 := ts.map (·.rand1) }, ?_, ?_⟩
  · unfold correSetup
    rw [h1]
  · exact ⟨hd, h3⟩

end Mps.OT
