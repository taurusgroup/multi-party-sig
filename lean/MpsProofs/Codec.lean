import Mps.Codec
import MpsProofs.Start
/- Lemmas for C15 (restore validation). Core-only. -/
namespace Mps.Codec
open Mps.Start

theorem ifaceField_ok (fixed : Bool) (v : FV) (k : Out) : ifaceField fixed v k = Out.ok ↔ v = FV.good ∧ k = Out.ok := by
  cases v <;> cases fixed <;> simp [ifaceField]

theorem ifaceField_true_eq {o : Out} (ho : o ≠ .err) (v : FV) (k : Out) :
    ifaceField true v k = o ↔ v = FV.good ∧ k = o := by
  cases v <;> simp [ifaceField, ho.symm]

theorem ptrField_eq {o : Out} (ho : o ≠ .err) (v : FV) (k : Out) : ptrField v k = o ↔ v = FV.good ∧ k = o := by
  unfold ptrField
  rw [ite_right_ne ho, beq_iff_eq]

theorem pubLoop_cons {o : Out} (ho : o ≠ .err) (self : Bytes) (seen : List Bytes) (e : PubTree) (rest : List PubTree)
    (h : pubLoop true self seen (e :: rest) = o) :
    (e.id ≠ [] ∧ e.s = FV.good ∧ e.t = FV.good ∧ (e.id ≠ self → e.n = FV.good ∧ e.ecdsa = FV.good ∧ e.elgamal = FV.good)) ∧
      e.id ∉ seen ∧ pubLoop true self (e.id :: seen) rest = o := by
  simp only [pubLoop, Bool.true_and, if_true, ite_left_ne ho, Bool.and_eq_true, beq_iff_eq, List.contains_iff_mem] at h
  obtain ⟨-, -, hid, hseen, h⟩ := h
  split at h <;>
    simp only [ite_left_ne ho, ite_right_ne ho, ptrField_eq ho, Bool.not_eq_true', Bool.and_eq_true, Bool.not_eq_false,
      beq_iff_eq] at h
  · next hs => exact ⟨⟨hid, h.1.1, h.1.2, fun hne => absurd hs hne⟩, hseen, h.2⟩
  · exact ⟨⟨hid, h.2.1.1, h.2.1.2, fun _ => ⟨h.1, h.2.2.1⟩⟩, hseen, h.2.2.2⟩

theorem pubLoop_ok (self : Bytes) : ∀ (l : List PubTree) (seen : List Bytes), pubLoop true self seen l = Out.ok →
    (∀ e ∈ l, e.id ≠ [] ∧ e.s = FV.good ∧ e.t = FV.good ∧ (e.id ≠ self → e.n = FV.good ∧ e.ecdsa = FV.good ∧ e.elgamal = FV.good)) ∧
    (l.map (·.id)).Nodup ∧ ∀ e ∈ l, e.id ∉ seen
  | [], _, _ => by simp
  | e :: rest, seen, h => by
    obtain ⟨he, hseen, h⟩ := pubLoop_cons (by decide) self seen e rest h
    obtain ⟨h1, h2, h3⟩ := pubLoop_ok self rest _ h
    simp only [List.forall_mem_cons, List.map_cons, List.nodup_cons, List.mem_map, not_exists, not_and]
    exact ⟨⟨he, h1⟩, ⟨fun x hx hxe => h3 x hx (hxe ▸ List.mem_cons_self), h2⟩, hseen,
      fun x hx hm => h3 x hx (List.mem_cons_of_mem _ hm)⟩

theorem pubLoop_true_ne_crash (self : Bytes) :
    ∀ (l : List PubTree) (seen : List Bytes), pubLoop true self seen l ≠ Out.crash
  | [], _ => by simp [pubLoop]
  | e :: rest, seen => fun h => pubLoop_true_ne_crash self rest _ (pubLoop_cons (by decide) self seen e rest h).2.2

/-- the guarded decoder either refuses or restores a config that satisfies the validity rules -/
theorem cmpRestore_true {o : Out} (ho : o ≠ .err) (t : CmpTree) (h : cmpRestore true t = o) :
    CmpWellFormed t ∧ o = Out.ok := by
  unfold cmpRestore at h
  simp only [Bool.true_and, ↓reduceIte, ite_left_ne ho, ifaceField_true_eq ho, ptrField_eq ho, andThen_eq ho, Bool.not_eq_true',
    Bool.not_eq_false, Bool.or_eq_true, beq_iff_eq, bne_iff_ne, Decidable.not_not, List.contains_iff_mem,
    validThreshold_iff] at h
  obtain ⟨hn, he, hg, hid, hrid, hck, hp, hq, ⟨hloop, ht, hself, ho⟩ | ⟨hcr, -⟩⟩ := h
  · have hl := pubLoop_ok t.id t.pub [] hloop
    exact ⟨⟨Bool.eq_false_iff.2 hn, hid, he, hg, hp, hq, hrid, or_assoc.1 hck, hl.1, hl.2.1, hself, ht.1, ht.2.2⟩, ho.symm⟩
  · exact absurd hcr (pubLoop_true_ne_crash _ _ _)

/-- the guarded `Exponent.UnmarshalBinary` as one decision: (outcome, points allocated) -/
theorem exponentDecode_true (i : ExpIn) : exponentDecode true i =
    if i.len < 4 ∨ i.count > i.len then (.err, 0) else
      (if i.coeffs = some i.count ∧ i.nullCoeff = false ∧ (i.isConstant = true ∨ 0 < i.count) then .ok else .err, i.count) := by
  obtain ⟨len, count, coeffs, nullCoeff, isConstant⟩ := i
  unfold exponentDecode
  by_cases h1 : len < 4
  · simp [h1]
  by_cases h2 : count > len
  · simp [h1, h2]
  rcases coeffs with _ | n
  · simp [h1, h2]
  cases nullCoeff
  · by_cases h3 : n = count
    · subst h3; cases isConstant <;> by_cases h4 : n = 0 <;> simp [h1, h2, h4, Nat.pos_iff_ne_zero]
    · simp [h1, h2, h3]
  · simp [h1, h2]

end Mps.Codec
