import Mps.Handler
/-
  What each function of the handler model (Mps/Handler.lean) does, case by case, and the inductions along
  `replayQueued`, `finalize` and `run`, so that the proofs of invariants do not walk through its `if`s (the simulation
  lemmas and the closed forms for honest runs unfold it). Core-only.
-/
namespace Mps.Handler

theorem lookup_keys (q : List (Nat × Bytes × Msg)) (r : Nat) (id : Bytes) (m : Msg) (h : lookup q r id = some m) :
    ∃ e ∈ q, e.2.2 = m ∧ e.1 = r ∧ e.2.1 = id := by
  unfold lookup at h
  obtain ⟨e, hf, rfl⟩ := Option.map_eq_some_iff.mp h
  have hp := List.find?_some hf
  simp only [Bool.and_eq_true, beq_iff_eq] at hp
  exact ⟨e, List.mem_of_find?_eq_some hf, rfl, hp.1, hp.2⟩

theorem lookup_of_mem (q : List (Nat × Bytes × Msg))
    (hf : ∀ e ∈ q, ∀ e' ∈ q, e.1 = e'.1 → e.2.1 = e'.2.1 → e = e') (e : Nat × Bytes × Msg) (he : e ∈ q) :
    lookup q e.1 e.2.1 = some e.2.2 := by
  unfold lookup
  cases hfind : q.find? (fun x => x.1 == e.1 && x.2.1 == e.2.1) with
  | none =>
    have := List.find?_eq_none.mp hfind e he
    simp at this
  | some e' =>
    have hp := List.find?_some hfind
    simp only [Bool.and_eq_true, beq_iff_eq] at hp
    have := hf e' (List.mem_of_find?_eq_some hfind) e he hp.1 hp.2
    rw [this]; rfl

theorem lookup_append (q q2 : List (Nat × Bytes × Msg)) (r : Nat) (id : Bytes) :
    lookup (q ++ q2) r id = (lookup q r id).or (lookup q2 r id) := by
  unfold lookup
  rw [List.find?_append]
  cases q.find? (fun e => e.1 == r && e.2.1 == id) <;> simp

theorem lookup_cons (x : Nat × Bytes × Msg) (q : List (Nat × Bytes × Msg)) (r : Nat) (id : Bytes) :
    lookup (x :: q) r id = if x.1 == r && x.2.1 == id then some x.2.2 else lookup q r id := by
  unfold lookup
  rw [List.find?_cons]
  cases x.1 == r && x.2.1 == id <;> rfl

theorem lookup_cons_ne (x : Nat × Bytes × Msg) (q : List (Nat × Bytes × Msg)) (r : Nat) (id : Bytes)
    (h : ¬ (x.1 = r ∧ x.2.1 = id)) : lookup (x :: q) r id = lookup q r id := by
  rw [lookup_cons, if_neg]
  simpa using h

theorem lookup_cons_eq (r : Nat) (id : Bytes) (m : Msg) (q : List (Nat × Bytes × Msg)) :
    lookup ((r, id, m) :: q) r id = some m := by
  rw [lookup_cons, if_pos]
  simp

def qOf (b : Bool) (s : State) : List (Nat × Bytes × Msg) := if b then s.bc else s.msgs

def setQ (b : Bool) (s : State) (q : List (Nat × Bytes × Msg)) : State :=
  if b then { s with bc := q } else { s with msgs := q }

theorem store_eq (s : State) (m : Msg) :
    store s m = if hasSlot s.sc m.rnd && !(lookup (qOf m.bcast s) m.rnd m.frm).isSome
      then setQ m.bcast s (qOf m.bcast s ++ [(m.rnd, m.frm, m)]) else s := by
  unfold store qOf setQ
  cases m.bcast <;> cases hasSlot s.sc m.rnd <;> simp only [Bool.false_eq_true, if_false, if_true, Bool.not_true,
    Bool.not_false, Bool.true_and, Bool.false_and, Bool.not_eq_true'] <;> split <;> simp_all

theorem store_with (s : State) (m : Msg) : store s m = { s with msgs := (store s m).msgs, bc := (store s m).bc } := by
  rw [store_eq]
  split
  · cases m.bcast <;> rfl
  · rfl

theorem store_idx (s : State) (m : Msg) : (store s m).idx = s.idx ∧ (store s m).cur = s.cur := by
  rw [store_with]; exact ⟨rfl, rfl⟩
theorem store_sc (s : State) (m : Msg) : (store s m).sc = s.sc := by rw [store_with]
theorem store_bh (s : State) (m : Msg) : (store s m).bh = s.bh := by rw [store_with]
theorem store_reached (s : State) (m : Msg) : (store s m).reached = s.reached := by rw [store_with]
theorem store_acc (s : State) (m : Msg) : (store s m).acc = s.acc := by rw [store_with]
theorem store_out (s : State) (m : Msg) : (store s m).out = s.out := by rw [store_with]

theorem qOf_true (s : State) : qOf true s = s.bc := rfl
theorem qOf_false (s : State) : qOf false s = s.msgs := rfl

theorem qOf_setQ (b b' : Bool) (s : State) (q : List (Nat × Bytes × Msg)) :
    qOf b (setQ b' s q) = if b = b' then q else qOf b s := by
  cases b <;> cases b' <;> rfl

theorem lookup_store (b : Bool) (s : State) (m : Msg) (r : Nat) (id : Bytes) :
    lookup (qOf b (store s m)) r id = (lookup (qOf b s) r id).or
      (if hasSlot s.sc m.rnd && (m.bcast == b) && (m.rnd == r && m.frm == id) then some m else none) := by
  rw [store_eq]
  cases hasSlot s.sc m.rnd
  · simp
  · by_cases hb : m.bcast = b
    · subst hb
      cases hl : lookup (qOf m.bcast s) m.rnd m.frm with
      | none => simp [qOf_setQ, lookup_append, lookup_cons, show lookup [] r id = none from rfl]
      | some x =>
        -- the key is taken: nothing is stored, and a lookup of that key finds the old entry
        by_cases hk : (m.rnd == r && m.frm == id) = true
        · simp only [Bool.and_eq_true, beq_iff_eq] at hk
          simp [← hk.1, ← hk.2, hl]
        · simp [hk]
    · have : (m.bcast == b) = false := by simpa using hb
      split <;> simp [qOf_setQ, Ne.symm hb, this]

theorem lookup_store_bc' (s : State) (m : Msg) (r : Nat) (id : Bytes) :
    lookup (store s m).bc r id =
      (lookup s.bc r id).or (if hasSlot s.sc m.rnd && m.bcast && (m.rnd == r && m.frm == id) then some m else none) := by
  simpa only [qOf_true, beq_true] using lookup_store true s m r id

theorem lookup_store_msgs' (s : State) (m : Msg) (r : Nat) (id : Bytes) :
    lookup (store s m).msgs r id =
      (lookup s.msgs r id).or (if hasSlot s.sc m.rnd && !m.bcast && (m.rnd == r && m.frm == id) then some m else none) := by
  simpa only [qOf_false, beq_false] using lookup_store false s m r id

theorem mem_store_q (b : Bool) (s : State) (m : Msg) (e : Nat × Bytes × Msg) :
    e ∈ qOf b (store s m) ↔ e ∈ qOf b s ∨
      (hasSlot s.sc m.rnd = true ∧ m.bcast = b ∧ lookup (qOf b s) m.rnd m.frm = none ∧ e = (m.rnd, m.frm, m)) := by
  rw [store_eq]
  by_cases hb : m.bcast = b
  · subst hb
    cases hasSlot s.sc m.rnd <;> cases h : lookup (qOf m.bcast s) m.rnd m.frm <;> simp [qOf_setQ]
  · cases hasSlot s.sc m.rnd <;> cases (lookup (qOf m.bcast s) m.rnd m.frm).isSome <;> simp [hb, qOf_setQ, Ne.symm hb]

theorem mem_store_bc (s : State) (m : Msg) (e : Nat × Bytes × Msg) :
    e ∈ (store s m).bc ↔ e ∈ s.bc ∨
      (hasSlot s.sc m.rnd = true ∧ m.bcast = true ∧ lookup s.bc m.rnd m.frm = none ∧ e = (m.rnd, m.frm, m)) :=
  mem_store_q true s m e

theorem mem_store_msgs (s : State) (m : Msg) (e : Nat × Bytes × Msg) :
    e ∈ (store s m).msgs ↔ e ∈ s.msgs ∨
      (hasSlot s.sc m.rnd = true ∧ m.bcast = false ∧ lookup s.msgs m.rnd m.frm = none ∧ e = (m.rnd, m.frm, m)) :=
  mem_store_q false s m e

theorem isFor_iff (m : Msg) (id : Bytes) : isFor m id = true ↔ m.frm ≠ id ∧ (m.to = [] ∨ m.to = id) := by
  by_cases h : m.frm = id <;> simp [isFor, h]

structure Acceptable (s : State) (m : Msg) : Prop where
  notOwn : m.frm ≠ s.sc.self
  toMe : m.to = [] ∨ m.to = s.sc.self
  proto : m.proto = s.sc.proto
  ssid : m.ssid.getD [] = s.sc.ssid
  known : m.frm ∈ s.sc.ids
  data : m.data.isSome = true
  inRange : m.rnd ≤ s.sc.final
  notStale : s.cur ≤ m.rnd ∨ m.rnd = 0

theorem canAccept_iff (s : State) (m : Msg) : canAccept s m = true ↔ Acceptable s m := by
  simp only [canAccept, Bool.and_eq_true, isFor_iff, beq_iff_eq, List.contains_iff_mem, Bool.not_eq_true',
    decide_eq_false_iff_not, Bool.and_eq_false_iff, Nat.not_lt, Nat.le_zero]
  exact ⟨fun ⟨⟨⟨⟨⟨⟨⟨h0, h1⟩, h2⟩, h3⟩, h4⟩, h5⟩, h6⟩, h7⟩ => ⟨h0, h1, h2, h3, h4, h5, h6, h7⟩,
    fun a => ⟨⟨⟨⟨⟨⟨⟨a.notOwn, a.toMe⟩, a.proto⟩, a.ssid⟩, a.known⟩, a.data⟩, a.inRange⟩, a.notStale⟩⟩

theorem not_acceptable {s : State} {m : Msg} (h : ¬ Acceptable s m) : canAccept s m = false :=
  Bool.eq_false_iff.mpr fun hc => h ((canAccept_iff s m).mp hc)

theorem hasSlot_iff {sc : Script} {r : Nat} : hasSlot sc r = true ↔ 2 ≤ r ∧ r ≤ sc.final := by simp [hasSlot]

theorem hasSlot_ne_zero {sc : Script} {r : Nat} (h : hasSlot sc r = true) : (r == 0) = false := by
  have := hasSlot_iff.mp h
  simp; omega

theorem curSpec_of_getElem? {s : State} {sp : RoundSpec} (h : s.sc.rounds[s.idx]? = some sp) : curSpec s = sp := by
  unfold curSpec
  simp [List.getD, h]

theorem duplicate_eq {s : State} {m : Msg} (h : hasSlot s.sc m.rnd = true) :
    duplicate s m = (lookup (qOf m.bcast s) m.rnd m.frm).isSome := by
  unfold duplicate
  simp only [hasSlot_ne_zero h, h, Bool.false_eq_true, if_false, Bool.not_true]
  cases m.bcast <;> rfl

theorem bhLookup_append (bh : List (Nat × Bytes)) (n : Nat) (x : Bytes) (r : Nat) :
    bhLookup (bh ++ [(n, x)]) r = (bhLookup bh r).or (if n == r then some x else none) := by
  unfold bhLookup
  rw [List.find?_append]
  cases bh.find? (fun e => e.1 == r) with
  | some e => rfl
  | none => by_cases hn : (n == r) = true <;> simp [List.find?, hn]

def newBh (H : Bytes → Bytes) (s : State) : Option Bytes :=
  if (curSpec s).recvB && hasSlot s.sc s.cur && (bhLookup s.bh s.cur).isNone then echoHash H s.sc s.bc s.cur else none

theorem fillBh_newBh (H : Bytes → Bytes) (s : State) :
    fillBh H s = match newBh H s with | some h => { s with bh := s.bh ++ [(s.cur, h)] } | none => s := by
  unfold fillBh newBh
  cases (curSpec s).recvB && hasSlot s.sc s.cur <;> cases echoHash H s.sc s.bc s.cur <;>
    cases (bhLookup s.bh s.cur).isNone <;> rfl

theorem fillBh_of_newBh_none (H : Bytes → Bytes) (s : State) (h : newBh H s = none) : fillBh H s = s := by
  rw [fillBh_newBh, h]

theorem fillBh_eq (H : Bytes → Bytes) (s : State) : fillBh H s = { s with bh := (fillBh H s).bh } := by
  rw [fillBh_newBh]
  cases newBh H s <;> rfl

theorem fillBh_idx (H : Bytes → Bytes) (s : State) : (fillBh H s).idx = s.idx := by rw [fillBh_eq]
theorem fillBh_cur (H : Bytes → Bytes) (s : State) : (fillBh H s).cur = s.cur := by rw [fillBh_eq]

theorem bhLookup_fillBh (H : Bytes → Bytes) (s : State) (r : Nat) :
    bhLookup (fillBh H s).bh r = (bhLookup s.bh r).or
      (if (curSpec s).recvB && hasSlot s.sc s.cur && (s.cur == r) then echoHash H s.sc s.bc s.cur else none) := by
  rw [fillBh_newBh, newBh]
  cases (curSpec s).recvB && hasSlot s.sc s.cur <;> cases echoHash H s.sc s.bc s.cur <;>
    cases hn : bhLookup s.bh s.cur <;> simp [bhLookup_append]
  -- the table has an entry for the current round already: for `r = s.cur` the lookup finds it
  case _ x =>
    by_cases hr : s.cur = r
    · rw [← hr, hn]; rfl
    · simp [hr]

theorem echoHash_isSome (H : Bytes → Bytes) (sc : Script) (bc : List (Nat × Bytes × Msg)) (r : Nat) :
    (echoHash H sc bc r).isSome = sc.ids.all fun id => (lookup bc r id).isSome := by
  unfold echoHash
  simp only [List.all_map]
  split
  · next h => rw [Option.isSome_some]; exact h.symm
  · next h => rw [Option.isSome_none]; exact (Bool.eq_false_iff.mpr h).symm

theorem echoHash_none_of_missing (H : Bytes → Bytes) (sc : Script) (bc : List (Nat × Bytes × Msg)) (r : Nat) (id : Bytes)
    (hid : id ∈ sc.ids) (h : lookup bc r id = none) : echoHash H sc bc r = none := by
  rw [← Option.not_isSome_iff_eq_none, echoHash_isSome, List.all_eq_true]
  exact fun hall => by have := hall id hid; rw [h] at this; cases this

theorem receivedAllB_eq (H : Bytes → Bytes) (s : State) :
    receivedAllB H s = (!hasSlot s.sc s.cur ||
      ((!(curSpec s).recvB || s.sc.ids.all fun id => (lookup s.bc s.cur id).isSome) &&
       (!(curSpec s).recvP || (others s.sc).all fun id => (lookup s.msgs s.cur id).isSome))) := by
  unfold receivedAllB p2pAll
  rw [← echoHash_isSome H]
  cases hasSlot s.sc s.cur <;> cases (curSpec s).recvB <;> cases (curSpec s).recvP <;>
    cases echoHash H s.sc s.bc s.cur <;> rfl

theorem receivedAllB_true {H : Bytes → Bytes} {s : State} (h : receivedAllB H s = true) (hs : hasSlot s.sc s.cur = true) :
    ((curSpec s).recvB = true → ∀ id ∈ s.sc.ids, (lookup s.bc s.cur id).isSome = true) ∧
    ((curSpec s).recvP = true → ∀ id ∈ others s.sc, (lookup s.msgs s.cur id).isSome = true) := by
  rw [receivedAllB_eq, hs] at h
  simp only [Bool.not_true, Bool.false_or, Bool.and_eq_true, Bool.or_eq_true, Bool.not_eq_true', List.all_eq_true,
    ← Bool.not_eq_true] at h
  exact ⟨fun hb => h.1.resolve_left (not_not_intro hb), fun hp => h.2.resolve_left (not_not_intro hp)⟩

theorem receivedAllB_false (H : Bytes → Bytes) (s : State) (h : receivedAllB H s = false) :
    hasSlot s.sc s.cur = true ∧
    (((curSpec s).recvB = true ∧ ∃ q ∈ s.sc.ids, lookup s.bc s.cur q = none) ∨
     ((curSpec s).recvP = true ∧ ∃ q ∈ others s.sc, lookup s.msgs s.cur q = none)) := by
  rw [receivedAllB_eq] at h
  simpa only [Bool.or_eq_false_iff, Bool.and_eq_false_iff, Bool.not_eq_false', List.all_eq_false, Bool.not_eq_true,
    Option.isSome_eq_false_iff, Option.isNone_iff_eq_none] using h

theorem checkBroadcastHash_iff (s : State) : checkBroadcastHash s = true ↔
    ∀ prev, bhLookup s.bh (s.cur - 1) = some prev →
      (∀ e ∈ s.msgs, e.1 = s.cur → e.2.2.bv.getD [] = prev) ∧ (∀ e ∈ s.bc, e.1 = s.cur → e.2.2.bv.getD [] = prev) := by
  unfold checkBroadcastHash
  cases bhLookup s.bh (s.cur - 1) with
  | none => simp
  | some p =>
    simp only [Bool.and_eq_true, List.all_eq_true, Bool.or_eq_true, bne_iff_ne, ne_eq, beq_iff_eq, Option.some.injEq,
      forall_eq', ← Decidable.imp_iff_not_or]

theorem foldStore_pres {P : State → Prop} (hs : ∀ s m, P s → P (store s m)) (ems : List Msg) (s : State) (h : P s) :
    P (ems.foldl (fun st m => if m.bcast then store st m else st) s) :=
  List.foldlRecOn ems _ h fun t ht m _ => by
    split
    · exact hs t m ht
    · exact ht

theorem sendAll_pres {P : State → Prop} (hs : ∀ s m, P s → P (store s m)) (ho : ∀ s o, P s → P { s with out := o })
    (s : State) (ems : List Msg) (h : P s) : P (sendAll s ems) :=
  ho _ _ (foldStore_pres hs ems s h)

theorem sendAll_with (s : State) (ems : List Msg) :
    sendAll s ems = { s with msgs := (sendAll s ems).msgs, bc := (sendAll s ems).bc, out := s.out ++ ems } := by
  have h := foldStore_pres (P := fun t => t = { s with msgs := t.msgs, bc := t.bc })
    (fun t m h => by rw [store_with, h]) ems s rfl
  unfold sendAll
  rw [h]

theorem sendAll_cur (s : State) (ems : List Msg) : (sendAll s ems).cur = s.cur := by rw [sendAll_with]
theorem sendAll_sc (s : State) (ems : List Msg) : (sendAll s ems).sc = s.sc := by rw [sendAll_with]
theorem sendAll_out (s : State) (ems : List Msg) : (sendAll s ems).out = s.out ++ ems := by rw [sendAll_with]

/-- the message the scripted `Finalize` builds; `to = []` for a broadcast -/
def mkMsg (sc : Script) (to : Bytes) (r : Nat) (b : Bool) (bv : Option Bytes) : Msg :=
  { ssid := some sc.ssid, frm := sc.self, to := to, proto := sc.proto, rnd := r,
    data := some (cborContent ⟨honestV sc sc.self to r, 0⟩), bcast := b, bv := bv,
    dec := some ⟨honestV sc sc.self to r, 0⟩ }

def emitW (sc : Script) (nx : RoundSpec) (bv : Option Bytes) : List Msg :=
  (if nx.recvB then [mkMsg sc [] nx.num true bv] else []) ++
  (if nx.recvP then (others sc).map fun id => mkMsg sc id nx.num false bv else [])

theorem emitFor_eq (s : State) (nx : RoundSpec) : emitFor s nx = emitW s.sc nx (bhLookup s.bh (nx.num - 1)) := rfl

theorem mem_emitW (sc : Script) (nx : RoundSpec) (bv : Option Bytes) (m : Msg) :
    m ∈ emitW sc nx bv ↔
      (nx.recvB = true ∧ m = mkMsg sc [] nx.num true bv) ∨
      (nx.recvP = true ∧ ∃ id ∈ others sc, m = mkMsg sc id nx.num false bv) := by
  unfold emitW
  cases nx.recvB <;> cases nx.recvP <;> simp [eq_comm]

theorem emitW_fields {sc : Script} {nx : RoundSpec} {bv : Option Bytes} {m : Msg} (hm : m ∈ emitW sc nx bv) :
    m.rnd = nx.num ∧ m.bv = bv ∧ m.frm = sc.self ∧ (∃ c, m.dec = some c ∧ c.f = 0 ∧ m.data = some (cborContent c)) ∧
    (m.to = [] ∨ m.to ∈ sc.ids) ∧ (m.bcast = true → nx.recvB = true) ∧ (m.bcast = false → nx.recvP = true) := by
  rcases (mem_emitW _ _ _ _).mp hm with ⟨hb, rfl⟩ | ⟨hp, id, hid, rfl⟩
  · exact ⟨rfl, rfl, rfl, ⟨_, rfl, rfl, rfl⟩, .inl rfl, fun _ => hb, nofun⟩
  · exact ⟨rfl, rfl, rfl, ⟨_, rfl, rfl, rfl⟩, .inr (List.mem_filter.mp hid).1, nofun, fun _ => hp⟩

theorem mem_emitFor {s : State} {nx : RoundSpec} {m : Msg} (h : m ∈ emitFor s nx) :
    ∃ to b, (if b then nx.recvB = true else nx.recvP = true) ∧ m = mkMsg s.sc to nx.num b (bhLookup s.bh (nx.num - 1)) := by
  rcases (mem_emitW _ _ _ _).mp (emitFor_eq s nx ▸ h) with ⟨hb, e⟩ | ⟨hp, id, -, e⟩
  · exact ⟨[], true, hb, e⟩
  · exact ⟨id, false, hp, e⟩

theorem protoFinalize_round (s : State) (i : Nat) (nx : RoundSpec) (h : protoFinalize s = .round i nx) :
    s.sc.rounds[i]? = some nx ∧ i = s.idx + 1 := by
  unfold protoFinalize at h
  split at h
  · cases h
  · split at h
    · cases h
    · split at h
      · next nx' hnx =>
        simp only [Next.round.injEq] at h
        obtain ⟨rfl, rfl⟩ := h
        exact ⟨hnx, rfl⟩
      · cases h

theorem protoFinalize_cases (s : State) :
    (protoFinalize s = .error → (s.sc.finErrAt != 0 && s.sc.finErrAt == s.cur) = true) ∧
    (∀ cs, protoFinalize s = .abortRound cs → cs = s.accused) ∧
    (∀ v, protoFinalize s = .output v → s.sc.rounds[s.idx + 1]? = none) := by
  unfold protoFinalize
  split
  · next hc => exact ⟨fun _ => hc, nofun, nofun⟩
  · split
    · exact ⟨nofun, fun _ h => by cases h; rfl, nofun⟩
    · split
      · exact ⟨nofun, nofun, nofun⟩
      · next hn => exact ⟨nofun, nofun, fun _ _ => hn⟩

def storeContent (s : State) (m : Msg) (c : Content) : State :=
  { s with acc := s.acc + c.v, accused := if hasFlag c.f fAccuse then s.accused ++ [m.frm] else s.accused }

theorem roundStoreP2P_eq (s : State) (m : Msg) : roundStoreP2P s m =
    (m.dec.filter fun c => !(hasFlag c.f fFailVerify || hasFlag c.f fFailStore)).map (storeContent s m) := by
  unfold roundStoreP2P
  cases m.dec with
  | none => rfl
  | some c => cases h : hasFlag c.f fFailVerify || hasFlag c.f fFailStore <;> simp [Option.filter, h, storeContent]

theorem roundStoreBcast_eq (s : State) (m : Msg) : roundStoreBcast s m =
    (m.dec.filter fun c => !hasFlag c.f fFailStoreB).map (storeContent s m) := by
  unfold roundStoreBcast
  cases m.dec with
  | none => rfl
  | some c => cases h : hasFlag c.f fFailStoreB <;> simp [Option.filter, h, storeContent]

theorem roundStore_some {ok : Content → Bool} {s s' : State} {m : Msg}
    (h : (m.dec.filter ok).map (storeContent s m) = some s') : ∃ c, m.dec = some c ∧ ok c = true ∧ s' = storeContent s m c := by
  obtain ⟨c, hc, rfl⟩ := Option.map_eq_some_iff.mp h
  obtain ⟨hd, hok⟩ := Option.filter_eq_some_iff.mp hc
  exact ⟨c, hd, hok, rfl⟩

theorem roundStore_none {ok : Content → Bool} {s : State} {m : Msg}
    (h : (m.dec.filter ok).map (storeContent s m) = none) : m.dec = none ∨ ∃ c, m.dec = some c ∧ ok c = false := by
  cases hd : m.dec with
  | none => exact Or.inl rfl
  | some c =>
    refine Or.inr ⟨c, rfl, ?_⟩
    cases hok : ok c
    · rfl
    · simp [hd, Option.filter, hok] at h

theorem verifyMessage_cases (s : State) (m : Msg) :
    verifyMessage s m = .ok s ∨ (sameView s m = false ∧ verifyMessage s m = .echo) ∨
    (sameView s m = true ∧ ((curSpec s).recvP = false ∨ roundStoreP2P s m = none) ∧ verifyMessage s m = .bad) ∨
    ∃ s', sameView s m = true ∧ (curSpec s).recvP = true ∧ roundStoreP2P s m = some s' ∧
      verifyMessage s m = .ok s' := by
  generalize hr : verifyMessage s m = r
  unfold verifyMessage at hr
  split at hr
  · exact Or.inl hr.symm
  · split at hr
    · exact Or.inl hr.symm
    · split at hr
      · next hv => exact Or.inr (Or.inl ⟨by simpa using hv, hr.symm⟩)
      · next hv =>
        have hv : sameView s m = true := by simpa using hv
        split at hr
        · next hp => exact Or.inr (Or.inr (Or.inl ⟨hv, Or.inl (by simpa using hp), hr.symm⟩))
        · next hp =>
          split at hr
          · next hs => exact Or.inr (Or.inr (Or.inl ⟨hv, Or.inr hs, hr.symm⟩))
          · next s' hs => exact Or.inr (Or.inr (Or.inr ⟨s', hv, by simpa using hp, hs, hr.symm⟩))

theorem verifyBroadcastMessage_cases (s : State) (m : Msg) :
    verifyBroadcastMessage s m = .ok s ∨ (sameView s m = false ∧ verifyBroadcastMessage s m = .echo) ∨
    (sameView s m = true ∧ ((curSpec s).recvB = false ∨ roundStoreBcast s m = none) ∧
      verifyBroadcastMessage s m = .bad) ∨
    ∃ s1, sameView s m = true ∧ roundStoreBcast s m = some s1 ∧ (verifyBroadcastMessage s m = .ok s1 ∨
      ∃ p, (curSpec s1).recvP = true ∧ lookup s1.msgs m.rnd m.frm = some p ∧
        verifyBroadcastMessage s m = verifyMessage s1 p) := by
  generalize hr : verifyBroadcastMessage s m = r
  unfold verifyBroadcastMessage at hr
  split at hr
  · exact Or.inl hr.symm
  · split at hr
    · next hv => exact Or.inr (Or.inl ⟨by simpa using hv, hr.symm⟩)
    · next hv =>
      have hv : sameView s m = true := by simpa using hv
      split at hr
      · next hb => exact Or.inr (Or.inr (Or.inl ⟨hv, Or.inl (by simpa using hb), hr.symm⟩))
      · split at hr
        · next h1 => exact Or.inr (Or.inr (Or.inl ⟨hv, Or.inr h1, hr.symm⟩))
        · next s1 h1 =>
          refine Or.inr (Or.inr (Or.inr ⟨s1, hv, h1, ?_⟩))
          split at hr
          · exact Or.inl hr.symm
          · next hp =>
            split at hr
            · exact Or.inl hr.symm
            · next p hl => exact Or.inr ⟨p, by simpa using hp, hl, hr.symm⟩

theorem verifyMessage_bad {s : State} {m : Msg} (h : verifyMessage s m = .bad) :
    sameView s m = true ∧ ((curSpec s).recvP = false ∨ roundStoreP2P s m = none) := by
  rcases verifyMessage_cases s m with e | ⟨-, e⟩ | ⟨hv, hb, -⟩ | ⟨s', -, -, -, e⟩
  · rw [e] at h; cases h
  · rw [e] at h; cases h
  · exact ⟨hv, hb⟩
  · rw [e] at h; cases h

theorem verifyBroadcastMessage_bad {s : State} {m : Msg} (h : verifyBroadcastMessage s m = .bad) :
    sameView s m = true ∧ ((curSpec s).recvB = false ∨ roundStoreBcast s m = none ∨
      ∃ s1 p, roundStoreBcast s m = some s1 ∧ lookup s1.msgs m.rnd m.frm = some p ∧ verifyMessage s1 p = .bad) := by
  rcases verifyBroadcastMessage_cases s m with e | ⟨-, e⟩ | ⟨hv, hb, -⟩ | ⟨s1, hv, h1, e | ⟨p, -, hl, e⟩⟩
  · rw [e] at h; cases h
  · rw [e] at h; cases h
  · exact ⟨hv, hb.imp_right Or.inl⟩
  · rw [e] at h; cases h
  · exact ⟨hv, Or.inr (Or.inr ⟨s1, p, h1, hl, e ▸ h⟩)⟩

theorem replayStep_cases (sp : RoundSpec) (n : Nat) (st : State) (id : Bytes) :
    replayStep sp n (st, none) id = (st, none) ∨
    (sp.recvB = true ∧ ∃ m, lookup st.bc n id = some m ∧
      replayStep sp n (st, none) id = failOf (verifyBroadcastMessage st m) m.frm st) ∨
    (sp.recvB = false ∧ ∃ m, lookup st.msgs n id = some m ∧
      replayStep sp n (st, none) id = failOf (verifyMessage st m) m.frm st) := by
  simp only [replayStep]
  split
  · next hb =>
    split
    · exact Or.inl rfl
    · split
      · exact Or.inl rfl
      · next m hl => exact Or.inr (Or.inl ⟨hb, m, hl, rfl⟩)
  · next hb =>
    split
    · exact Or.inl rfl
    · next m hl => exact Or.inr (Or.inr ⟨by simpa using hb, m, hl, rfl⟩)

theorem replayQueued_induct (s : State) {P : State × Option Fail → Prop} (h0 : P (s, none))
    (step : ∀ acc id, P acc → P (replayStep (curSpec s) s.cur acc id)) : P (replayQueued s) := by
  unfold replayQueued
  generalize s.sc.ids = ids, (s, none) = acc at h0
  induction ids generalizing acc with
  | nil => exact h0
  | cons id ids ih => exact ih _ (step acc id h0)

@[reducible] def Step.st : Step → State
  | .halt s => s
  | .more s => s

/-- `stay` stands for the three silent returns: not everything received yet, or the session is already in round 0 -/
theorem finalizeStep_cases (H : Bytes → Bytes) (s : State) {motive : Step → Prop}
    (stay : motive (.halt (fillBh H s)))
    (echo : receivedAllB H s = true → checkBroadcastHash (fillBh H s) = false →
      motive (.halt (abort (fillBh H s) (some .echoMismatch))))
    (finErr : receivedAllB H s = true → checkBroadcastHash (fillBh H s) = true →
      protoFinalize (fillBh H s) = .error → motive (.halt (abort (fillBh H s) (some .finalizeErr))))
    (protoAbort : ∀ cs, receivedAllB H s = true → checkBroadcastHash (fillBh H s) = true →
      protoFinalize (fillBh H s) = .abortRound cs →
      motive (.halt (abort (enter0 (fillBh H s)) (some (.protoAbort cs)))))
    (output : ∀ v, receivedAllB H s = true → checkBroadcastHash (fillBh H s) = true →
      protoFinalize (fillBh H s) = .output v →
      motive (.halt (abort { enter0 (fillBh H s) with result := some v } none)))
    (sent : ∀ i nx, receivedAllB H s = true → checkBroadcastHash (fillBh H s) = true →
      protoFinalize (fillBh H s) = .round i nx → motive (.halt (sendAll (fillBh H s) (emitFor (fillBh H s) nx))))
    (replayed : ∀ i nx s5 f, receivedAllB H s = true → checkBroadcastHash (fillBh H s) = true →
      protoFinalize (fillBh H s) = .round i nx →
      replayQueued (enter (sendAll (fillBh H s) (emitFor (fillBh H s) nx)) i nx) = (s5, f) →
      motive (match f with | some f => .halt (abort s5 (some (errOf f))) | none => .more s5)) :
    motive (finalizeStep H s) := by
  unfold finalizeStep
  simp only
  split
  · exact stay
  · next hr =>
    have hr : receivedAllB H s = true := by simpa using hr
    split
    · next hc => exact echo hr (by simpa using hc)
    · next hc =>
      have hc : checkBroadcastHash (fillBh H s) = true := by simpa using hc
      split
      · next h => exact finErr hr hc h
      · next cs h => split; exact stay; exact protoAbort cs hr hc h
      · next v h => split; exact stay; exact output v hr hc h
      · next i nx h =>
        split
        · exact sent i nx hr hc h
        · split
          · next s5 f hq => exact replayed i nx s5 (some f) hr hc h hq
          · next s5 hq => exact replayed i nx s5 none hr hc h hq

def Step.sat (Q P : State → Prop) : Step → Prop
  | .halt s => Q s
  | .more s => P s

theorem Step.sat_st {P : State → Prop} {st : Step} (h : P st.st) : st.sat P P := by cases st <;> exact h

theorem Step.sat.halt {Q Q' P : State → Prop} {st : Step} (h : st.sat Q' P) (hq : Q st.st) : st.sat Q P := by
  cases st
  · exact hq
  · exact h

theorem Step.sat.and {Q Q' P P' : State → Prop} {st : Step} (h : st.sat Q P) (h' : st.sat Q' P') :
    st.sat (fun s => Q s ∧ Q' s) (fun s => P s ∧ P' s) := by cases st <;> exact ⟨h, h'⟩

theorem finalize_sat (H : Bytes → Bytes) {P Q : State → Prop} (base : ∀ s, P s → Q s)
    (step : ∀ s, P s → (finalizeStep H s).sat Q P) (fuel : Nat) (s : State) (h : P s) : Q (finalize H fuel s) := by
  induction fuel generalizing s with
  | zero => exact base s h
  | succ fuel ih =>
    have hs := step s h
    unfold finalize
    split
    · next s' e => rwa [e] at hs
    · next s' e => rw [e] at hs; exact ih s' hs

structure Admitted (s : State) (m : Msg) : Prop where
  can : canAccept s m = true
  running : terminal s = false
  fresh : duplicate s m = false

theorem accept_cases (H : Bytes → Bytes) (s : State) (m : Msg) {motive : State → Prop}
    (ignored : motive s)
    (notice : Admitted s m → m.rnd = 0 → motive (abort s (some (.peerAbort m.frm))))
    (queued : Admitted s m → m.rnd ≠ 0 → (store s m).cur ≠ m.rnd → motive (store s m))
    (verified : ∀ r, Admitted s m → m.rnd ≠ 0 → (store s m).cur = m.rnd →
      (if m.bcast then verifyBroadcastMessage (store s m) m else verifyMessage (store s m) m) = r →
      motive (match r with
        | .bad => abort (store s m) (some (.msgFail m.frm))
        | .echo => abort (store s m) (some .echoMismatch)
        | .ok s2 => finalize H (s2.sc.rounds.length + 1) s2)) :
    motive (accept H s m) := by
  unfold accept
  split
  · exact ignored
  · next hc =>
    simp only [Bool.or_eq_true, Bool.not_eq_true', not_or, Bool.not_eq_false, Bool.not_eq_true] at hc
    have a : Admitted s m := ⟨hc.1.1, hc.1.2, hc.2⟩
    split
    · next h0 => exact notice a (by simpa using h0)
    · next h0 =>
      unfold acceptStored
      split
      · next hcur => exact queued a (by simpa using h0) (by simpa using hcur)
      · next hcur => exact verified _ a (by simpa using h0) (by simpa using hcur) rfl

theorem accept_terminal (H : Bytes → Bytes) (s : State) (m : Msg) (h : terminal s = true) : accept H s m = s := by
  simp [accept, h]

theorem accept_refused (H : Bytes → Bytes) (s : State) (m : Msg) (h : canAccept s m = false) : accept H s m = s := by
  simp [accept, h]

theorem accept_duplicate (H : Bytes → Bytes) (s : State) (m : Msg) (h : duplicate s m = true) : accept H s m = s := by
  simp [accept, h]

theorem stop_terminal (s : State) (h : terminal s = true) : stop s = s := by simp [stop, h]

theorem apply_terminal (H : Bytes → Bytes) (s : State) (c : Call) (h : terminal s = true) : apply H s c = s := by
  cases c
  case accept m => exact accept_terminal H s m h
  case stop => exact stop_terminal s h
  all_goals rfl

theorem foldl_apply_terminal (H : Bytes → Bytes) (s : State) (calls : List Call) (h : terminal s = true) :
    calls.foldl (apply H) s = s :=
  List.foldlRecOn (motive := (· = s)) calls _ rfl fun _ ht c _ => ht ▸ apply_terminal H s c h

theorem run_append (H : Bytes → Bytes) (sc : Script) (calls more : List Call) :
    run H sc (calls ++ more) = more.foldl (apply H) (run H sc calls) := List.foldl_append ..

theorem run_induct (H : Bytes → Bytes) {P : State → Prop} (step : ∀ s c, P s → P (apply H s c)) (sc : Script)
    (calls : List Call) (h0 : P (init H sc)) : P (run H sc calls) :=
  List.foldlRecOn calls (apply H) h0 fun s hs c _ => step s c hs

end Mps.Handler
