import MpsProofs.TwoPartyOrder
/-
  Lemmas for the two-party composition (MpsProps/C07TwoPartySystem.lean): in a session of a leader and a follower
  handler (`Mps.System2`) whose scripts match (`Session2Ok`), under every causal schedule, (a) what a party has
  emitted is an `Honest2` message set for the other one (`emitted_honest2`), (b) nobody aborts (`no_honest_abort2`),
  (c) the outcome of a party depends only on the set of messages delivered to it (`schedule_feq2`), and (d) (with
  `Session2Live`) a schedule that is fair to the end completes both parties with closed-form results
  (`complete_schedule_completes2`).

  One handler (`run2_keeps`): after deliveries from an honest set whose values are known, its position, its emitted
  messages and its sum are the closed forms of `Track`, and unless it has finished it satisfies `Inv2`, has the
  deliveries in its store and waits. The session: everything a causal schedule delivers is in the sender's
  closed-form list (`delivered_ideal`, by `causal_induction`), so `run2_keeps` holds for each party
  (`party_runinv`), and (a), (b), (c) are read off. For (d), `blocked` says that a waiting party (`Waits`) has an
  unfinished partner in a round with a number at most its own; applied both ways nobody waits (`all_terminal`).
  The scripts are read by role (`Session2Ok.feeds`, `Session2Live.incr`, `.fed`) so that nothing is said twice
  for leader and follower; only the follower's start (`Session2Live.wake`) is not symmetric. Core-only.
-/
namespace Mps.System2
open Mps.Handler Mps.TwoParty

def valueOf (val : Nat → Nat) (rs : List Round2) : Nat := ((rs.filter (·.recv)).map fun r => val r.num).sum

theorem sessionValue2_eq (sc : Script2) : sessionValue2 sc = valueOf (fun n => hv2 sc.ids sc.peer sc.self n) sc.rounds := rfl

theorem sends_append (sc : Script2) (a b : List Round2) : sends sc (a ++ b) = sends sc a ++ sends sc b := by
  simp [sends, List.filter_append]

theorem valueOf_append (val : Nat → Nat) (a b : List Round2) : valueOf val (a ++ b) = valueOf val a + valueOf val b := by
  simp [valueOf, List.filter_append]

theorem sends_take_succ (sc : Script2) (rs : List Round2) (i : Nat) :
    sends sc (rs.take (i + 1)) = sends sc (rs.take i) ++ emit2 sc (rs.getD i default) := by
  rw [List.take_add_one, sends_append, List.getD]
  cases rs[i]? with
  | none => rfl
  | some r => by_cases hs : r.send = true <;> simp [sends, emit2, hs]

theorem valueOf_take_succ (val : Nat → Nat) (rs : List Round2) (i : Nat) :
    valueOf val (rs.take (i + 1)) = valueOf val (rs.take i) + (if (rs.getD i default).recv then val (rs.getD i default).num else 0) := by
  rw [List.take_add_one, valueOf_append, List.getD]
  cases rs[i]? with
  | none => rfl
  | some r => by_cases hs : r.recv = true <;> simp [valueOf, hs]

theorem mem_sends (sc : Script2) (rs : List Round2) (m : Msg) :
    m ∈ sends sc rs ↔ ∃ r ∈ rs, r.send = true ∧ m = msgOf sc r.sendNum := by
  simp only [sends, List.mem_map, List.mem_filter]
  constructor
  · rintro ⟨r, ⟨h1, h2⟩, h3⟩; exact ⟨r, h1, h2, h3.symm⟩
  · rintro ⟨r, h1, h2, h3⟩; exact ⟨r, ⟨h1, h2⟩, h3.symm⟩

/-- `a` talks to `b`: the part of `Session2Ok` that concerns the messages from `a` to `b` -/
structure Feeds (a b : Script2) : Prop where
  ids : a.ids = b.ids
  self : a.self = b.peer
  peer : a.peer = b.self
  ne : a.self ≠ b.self
  mem : a.self ∈ b.ids
  proto : a.proto = b.proto
  ssid : a.ssid = b.ssid
  nums : b.rounds.Pairwise (fun x y => x.num ≠ y.num)
  sends : ∀ r ∈ a.rounds.dropLast, r.send = true →
    1 ≤ r.sendNum ∧ r.sendNum ≤ b.final ∧ ∃ sp ∈ b.rounds, sp.num = r.sendNum ∧ sp.recv = true

theorem Session2Ok.feeds {scL scF : Script2} (ok : Session2Ok scL scF) (p : Side) :
    Feeds (scriptOf scL scF p.other) (scriptOf scL scF p) := by
  cases p
  · exact ⟨ok.ids.symm, ok.peerL.symm, ok.peerF, fun h => ok.distinct h.symm, ok.memF, ok.proto.symm, ok.ssid.symm,
      ok.numsL, ok.sendsF⟩
  · exact ⟨ok.ids, ok.peerF.symm, ok.peerL, ok.distinct, ok.ids ▸ ok.memL, ok.proto, ok.ssid, ok.numsF,
      fun r hr hs => let ⟨h1, h2, h3⟩ := ok.sendsL r hr hs; ⟨h1, ok.final ▸ h2, h3⟩⟩

theorem Session2Ok.noFinErr {scL scF : Script2} (ok : Session2Ok scL scF) (p : Side) :
    (scriptOf scL scF p).finErrAt = 0 := by
  cases p
  · exact ok.noFinErrL
  · exact ok.noFinErrF

/-- (a), statically -/
theorem Feeds.honest {a b : Script2} (h : Feeds a b) : Honest2 b (idealOut2 a) := by
  refine ⟨h.nums, fun m hm => ?_, fun m hm m' hm' e => ?_⟩
  · obtain ⟨r, hr, hs, rfl⟩ := (mem_sends _ _ _).mp hm
    obtain ⟨h1, h2, h3⟩ := h.sends r hr hs
    exact ⟨h.self, h.mem, h.ne, Or.inr h.peer, h.proto, h.ssid, rfl, h1, h2, rfl, h3, rfl⟩
  · obtain ⟨r, -, -, rfl⟩ := (mem_sends _ _ _).mp hm
    obtain ⟨r', -, -, rfl⟩ := (mem_sends _ _ _).mp hm'
    have e' : r.sendNum = r'.sendNum := e
    rw [e']

def valFor (b : Script2) (n : Nat) : Nat := hv2 b.ids b.peer b.self n

theorem Feeds.value {a b : Script2} (h : Feeds a b) : ∀ m ∈ idealOut2 a, m.dec.map (·.v) = some (valFor b m.rnd) := by
  intro m hm
  obtain ⟨r, -, -, rfl⟩ := (mem_sends _ _ _).mp hm
  show some (hv2 a.ids a.self a.peer r.sendNum) = some (hv2 b.ids b.peer b.self r.sendNum)
  rw [h.ids, h.self, h.peer]

section Single
variable {sc : Script2} {M : List Msg} {val : Nat → Nat}

/-- holds of every state, terminal or not, that a handler reaches when it is only given honest messages -/
structure Track (sc : Script2) (val : Nat → Nat) (s : State2) : Prop where
  hsc : s.sc = sc
  err : s.err = none
  idx : sc.rounds ≠ [] → s.idx < sc.rounds.length
  out : s.out = sends sc (sc.rounds.take s.idx)
  acc : s.result = none → s.acc = valueOf val (sc.rounds.take s.idx)
  fin : ∀ v, s.result = some v → sc.rounds.length ≤ s.idx + 1 ∧ v = valueOf val sc.rounds

theorem Track.setMsgs {s : State2} (tr : Track sc val s) (q : List (Nat × Msg)) : Track sc val (setMsgs s q) :=
  ⟨tr.hsc, tr.err, tr.idx, tr.out, tr.acc, tr.fin⟩

theorem Track.of_feq {a b : State2} (tr : Track sc val a) (h : FEq2 a b) : Track sc val b :=
  h.eq ▸ tr.setMsgs b.msgs

theorem Track.out_sub {s : State2} (tr : Track sc val s) : ∀ m ∈ s.out, m ∈ idealOut2 sc := by
  intro m hm
  rw [tr.out] at hm
  obtain ⟨r, hr, h1, h2⟩ := (mem_sends _ _ _).mp hm
  refine (mem_sends _ _ _).mpr ⟨r, ?_, h1, h2⟩
  -- the rounds that were left do not include the last one
  have := tr.idx (List.ne_nil_of_mem (List.mem_of_mem_take hr))
  rw [List.dropLast_eq_take]
  exact (List.take_prefix_take_left (by omega)).subset hr

theorem Track.sent {s : State2} (tr : Track sc val s) {r : Round2} (hr : r ∈ sc.rounds.take s.idx) (hs : r.send = true) :
    msgOf sc r.sendNum ∈ s.out := by
  rw [tr.out]; exact (mem_sends _ _ _).mpr ⟨r, hr, hs, rfl⟩

theorem Track.finished {s : State2} (tr : Track sc val s) (ht : terminal2 s = true) :
    sc.rounds.length ≤ s.idx + 1 ∧ s.result = some (valueOf val sc.rounds) := by
  obtain ⟨v, hv⟩ := Option.isSome_iff_exists.mp (by simpa [terminal2, tr.err] using ht : s.result.isSome = true)
  obtain ⟨h1, rfl⟩ := tr.fin v hv
  exact ⟨h1, hv⟩

theorem Track.terminal {s : State2} (tr : Track sc val s) (ht : terminal2 s = true) :
    s.result = some (valueOf val sc.rounds) ∧ s.out = sends sc sc.rounds.dropLast := by
  obtain ⟨hlast, hres⟩ := tr.finished ht
  refine ⟨hres, ?_⟩
  rw [tr.out, List.dropLast_eq_take]
  by_cases hn : sc.rounds = []
  · rw [hn, List.take_nil, List.take_nil]
  · have := tr.idx hn
    congr 2
    omega

theorem state0_track (sc : Script2) (val : Nat → Nat) : Track sc val (TwoParty.state0 sc) :=
  ⟨rfl, rfl, fun h => List.length_pos_iff.mpr h, rfl, fun _ => rfl, fun v h => by simp [TwoParty.state0] at h⟩

theorem gain_track {s : State2} (hM : Honest2 sc M) (hV : ∀ m ∈ M, m.dec.map (·.v) = some (val m.rnd))
    (inv : Inv2 sc M s) (hc : canAdvance s = true) :
    gain (lookup2 s.msgs s.cur) = if (curRound s).recv then val s.cur else 0 := by
  cases hl : lookup2 s.msgs s.cur with
  | none =>
    rw [canAdvance_eq inv.ended, hl] at hc
    have hr : (curRound s).recv = false := by simpa using hc
    rw [hr]; rfl
  | some x =>
    obtain ⟨hx, hr⟩ := inv.stored _ _ hl
    rw [inv.recv hM x hx hr, ← hr]
    show (x.dec.map (·.v)).getD 0 = _
    rw [hV x hx]; rfl

theorem advanceStep_closed {s : State2} (hM : Honest2 sc M) (hV : ∀ m ∈ M, m.dec.map (·.v) = some (val m.rnd))
    (h0 : sc.finErrAt = 0) (tr : Track sc val s) (inv : Inv2 sc M s) (hc : canAdvance s = true) :
    advanceStep s =
      match sc.rounds[s.idx + 1]? with
      | none => .halt (abort2 { s with acc := valueOf val (sc.rounds.take (s.idx + 1)), ended := true, cur := 0,
                                       result := some (valueOf val (sc.rounds.take (s.idx + 1))) } none)
      | some nx => .more { s with acc := valueOf val (sc.rounds.take (s.idx + 1)),
                                  out := sends sc (sc.rounds.take (s.idx + 1)), idx := s.idx + 1, cur := nx.num } := by
  have hacc : s.acc + gain (lookup2 s.msgs s.cur) = valueOf val (sc.rounds.take (s.idx + 1)) := by
    rw [gain_track hM hV inv hc, valueOf_take_succ, tr.acc inv.result, inv.cur, curRound_eq inv.hsc]
  have hout : s.out ++ emit2 sc (curRound s) = sends sc (sc.rounds.take (s.idx + 1)) := by
    rw [sends_take_succ, tr.out, curRound_eq inv.hsc]
  have hfin : (s.sc.finErrAt != 0 && s.sc.finErrAt == s.cur) = false := by rw [inv.hsc, h0]; rfl
  rw [advanceStep_honest hM inv hc, finish_eq _ { s with acc := s.acc + gain (lookup2 s.msgs s.cur) } hfin inv.accuse]
  simp only [inv.hsc, hacc, hout]
  rfl

theorem advance_keeps (hM : Honest2 sc M) (hV : ∀ m ∈ M, m.dec.map (·.v) = some (val m.rnd)) (h0 : sc.finErrAt = 0)
    (f : Nat) (s : State2) (tr : Track sc val s) (inv : Inv2 sc M s) (hf : Enough f s) :
    Track sc val (advance f s) ∧
      (terminal2 (advance f s) = true ∨ (Inv2 sc M (advance f s) ∧ canAdvance (advance f s) = false)) := by
  induction f generalizing s with
  | zero => exact absurd hf.2 (by omega)
  | succ f ih =>
    unfold advance
    cases hc : canAdvance s with
    | false =>
      rw [advanceStep_stuck s hc]
      exact ⟨tr, Or.inr ⟨inv, hc⟩⟩
    | true =>
      have hstep := advanceStep_closed hM hV h0 tr inv hc
      cases hg : sc.rounds[s.idx + 1]? with
      | none =>
        rw [hg] at hstep
        rw [hstep]
        have hlen : sc.rounds.length ≤ s.idx + 1 := List.getElem?_eq_none_iff.mp hg
        refine ⟨{ tr with acc := (fun h => nomatch h), fin := fun v hv => ⟨hlen, ?_⟩ }, Or.inl (by simp [terminal2, abort2])⟩
        cases hv
        rw [List.take_of_length_le hlen]
      | some nx =>
        rw [hg] at hstep
        rw [hstep]
        exact ih _ { tr with idx := fun _ => (List.getElem?_eq_some_iff.mp hg).1, out := rfl, acc := fun _ => rfl,
                             fin := fun v hv => nomatch inv.result.symm.trans hv } (inv.more hstep) (hf.more hstep)

def Waits (sc : Script2) (M l : List Msg) (s : State2) : Prop :=
  Inv2 sc M s ∧ (∀ x ∈ l, (lookup2 s.msgs x.rnd).isSome = true) ∧ canAdvance s = false

/-- the state after the honest deliveries `l` -/
structure RunInv (sc : Script2) (M : List Msg) (val : Nat → Nat) (l : List Msg) (s : State2) : Prop where
  track : Track sc val s
  rest : terminal2 s = true ∨ Waits sc M l s ∨ (¬ Started sc l ∧ s = TwoParty.state0 sc)

/-- read off the normal form, by `advance_keeps` for its one run of `advance`: `Track` does not mention the store,
    `Inv2` and `canAdvance` only its lookups -/
theorem run2_keeps (hM : Honest2 sc M) (hV : ∀ m ∈ M, m.dec.map (·.v) = some (val m.rnd)) (h0 : sc.finErrAt = 0)
    (l : List Msg) (hl : ∀ m ∈ l, m ∈ M) : RunInv sc M val l (run2 sc (l.map Call2.accept)) := by
  have O := (run2_canon hM l hl).symm
  by_cases hst : Started sc l
  · rw [canon2_started hst] at O
    have K := advance_keeps hM hV h0 _ _ ((state0_track sc val).setMsgs (preQ l)) (preload2_inv l hl)
      (enough_full (preload2 sc l))
    refine ⟨K.1.of_feq O.feq, ?_⟩
    rcases O with hs | ⟨ht, hf⟩
    · refine K.2.imp (fun ht => terminal2_feq hs.1 ▸ ht) fun ⟨inv, hw⟩ =>
        Or.inl ⟨inv.of_sim hs, fun x hx => ?_, hs.canAdvance ▸ hw⟩
      rw [← hs.2, advance_msgs, show (preload2 sc l).msgs = preQ l from rfl, lookup2_preQ, List.find?_isSome]
      exact ⟨x, List.mem_reverse.mpr hx, beq_self_eq_true _⟩
    · exact Or.inl (terminal2_feq hf ▸ ht)
  · have e0 : run2 sc (l.map Call2.accept) = TwoParty.state0 sc := by
      obtain ⟨rfl, e0⟩ := canon2_asleep hst
      exact e0
    exact ⟨e0 ▸ state0_track sc val, Or.inr (Or.inr ⟨hst, e0⟩)⟩

theorem RunInv.first_sent {l : List Msg} {s : State2} (R : RunInv sc M val l s) (hlead : sc.leader = true)
    (hr : (sc.rounds.getD 0 default).recv = false) (hs : (sc.rounds.getD 0 default).send = true)
    (hlen : 2 ≤ sc.rounds.length) : msgOf sc (sc.rounds.getD 0 default).sendNum ∈ s.out := by
  have hlt : 0 < sc.rounds.length := by omega
  -- it does not wait in a round that needs no input, so it has left the first round
  have hpos : 0 < s.idx := by
    rcases R.rest with ht | w | ⟨hn, -⟩
    · have := (R.track.finished ht).1
      omega
    · refine Nat.pos_of_ne_zero fun hz => ?_
      have hrecv := (stuck_recv w.1 w.2.2).1
      rw [curRound_eq w.1.hsc, hz, hr] at hrecv
      cases hrecv
    · exact absurd (Or.inl hlead) hn
  refine R.track.sent (List.mem_take_iff_getElem.mpr ⟨0, by omega, ?_⟩) hs
  exact List.getElem_eq_getD default

end Single

theorem Side.other_ne (p : Side) : p.other ≠ p := by cases p <;> exact Side.noConfusion

theorem Side.other_other (p : Side) : p.other.other = p := by cases p <;> rfl

/-- By reduction; but to see that `(Sys2.run …).get .L` is `(Sys2.run …).l` in a concrete session the elaborator
    evaluates the handlers, and a rewrite with these does not. -/
theorem Sys2.get_L (σ : Sys2) : σ.get .L = σ.l := rfl
theorem Sys2.get_F (σ : Sys2) : σ.get .F = σ.f := rfl

theorem get_deliver_self (σ : Sys2) (p : Side) (m : Msg) : (σ.deliver p m).get p = accept2 (σ.get p) m := by
  cases p <;> rfl

theorem get_deliver_other (σ : Sys2) (p q : Side) (m : Msg) (h : q ≠ p) : (σ.deliver p m).get q = σ.get q := by
  cases p <;> cases q <;> first | rfl | exact absurd rfl h

theorem delivered2_cons (e : Side × Msg) (rest : Sched2) (p : Side) :
    delivered2 (e :: rest) p = if e.1 = p then e.2 :: delivered2 rest p else delivered2 rest p := by
  unfold delivered2
  by_cases h : e.1 = p <;> simp [h]

theorem runFrom_get (sched : Sched2) (p : Side) (σ : Sys2) :
    (σ.runFrom sched).get p = (delivered2 sched p).foldl accept2 (σ.get p) := by
  induction sched generalizing σ with
  | nil => rfl
  | cons e rest ih =>
    have : Sys2.runFrom σ (e :: rest) = Sys2.runFrom (σ.deliver e.1 e.2) rest := rfl
    rw [this, ih, delivered2_cons]
    by_cases h : e.1 = p
    · simp only [h, if_true, List.foldl_cons]
      rw [← h, get_deliver_self]
    · simp only [h, if_false]
      rw [get_deliver_other _ _ _ _ (fun x => h x.symm)]

theorem runFrom_append (σ : Sys2) (a b : Sched2) : σ.runFrom (a ++ b) = (σ.runFrom a).runFrom b :=
  List.foldl_append ..

theorem delivered2_append (a b : Sched2) (p : Side) : delivered2 (a ++ b) p = delivered2 a p ++ delivered2 b p := by
  simp [delivered2]

theorem causalFrom2_append (a b : Sched2) (σ : Sys2) :
    causalFrom2 σ (a ++ b) = (causalFrom2 σ a && causalFrom2 (σ.runFrom a) b) := by
  induction a generalizing σ with
  | nil => rfl
  | cons e a ih => simp only [List.cons_append, causalFrom2, ih, Bool.and_assoc]; rfl

theorem causal2_take {scL scF : Script2} {sched : Sched2} (h : Causal2 scL scF sched = true) (n : Nat) :
    Causal2 scL scF (sched.take n) = true := by
  unfold Causal2 at *
  rw [← List.take_append_drop n sched, causalFrom2_append, Bool.and_eq_true] at h
  exact h.1

theorem run_get (scL scF : Script2) (sched : Sched2) (p : Side) :
    (Sys2.run scL scF sched).get p = run2 (scriptOf scL scF p) ((delivered2 sched p).map Call2.accept) := by
  unfold Sys2.run run2
  rw [runFrom_get, List.foldl_map]
  have : (Sys2.init scL scF).get p = init2 (scriptOf scL scF p) := by cases p <;> rfl
  rw [this]
  rfl

theorem abort2_out_mono (s : State2) (e : Option Err2) : ∀ x ∈ s.out, x ∈ (abort2 s e).out := by
  intro x hx
  cases e with
  | none => exact hx
  | some k => exact List.mem_append_left _ hx

theorem advance_out_mono (f : Nat) (s : State2) : ∀ x ∈ s.out, x ∈ (advance f s).out := by
  intro x
  refine advance_induct (P := fun s => x ∈ s.out) (fun _ h => h) (fun s s' hx e => ?_) (fun s s' hx e => ?_) f s
  · cases advanceStep_from e with
    | wait => exact hx
    | abort => exact abort2_out_mono _ _ x hx
    | done => exact hx
  · obtain ⟨a, nx, -, rfl⟩ := advanceStep_more e
    exact List.mem_append_left _ hx

theorem accept2_out_mono (s : State2) (m : Msg) : ∀ x ∈ s.out, x ∈ (accept2 s m).out := by
  intro x hx
  apply accept2_cases s m (motive := fun t => x ∈ t.out)
  case ignored => exact hx
  case notice => exact fun _ _ => abort2_out_mono _ _ x hx
  case stored => exact fun _ _ _ => advance_out_mono _ _ x hx

theorem deliver_out_mono (σ : Sys2) (p : Side) (m : Msg) (q : Side) : ∀ x ∈ (σ.get q).out, x ∈ ((σ.deliver p m).get q).out := by
  intro x h
  by_cases hq : q = p
  · subst hq; rw [get_deliver_self]; exact accept2_out_mono _ _ x h
  · rw [get_deliver_other _ _ _ _ hq]; exact h

/-- Induction over a causal schedule from its end: `Q` holds of the last delivery, which is a message from the
    sender's `out`, if it holds of all earlier ones. -/
theorem causal_induction {σ : Sys2} {Q : Sched2 → Side → Msg → Prop}
    (mono : ∀ l e p m, Q l p m → Q (l ++ [e]) p m)
    (step : ∀ l p m, (∀ q, ∀ x ∈ delivered2 l q, Q l q x) → m ∈ ((σ.runFrom l).get p.other).out → Q (l ++ [(p, m)]) p m)
    (sched : Sched2) (hc : causalFrom2 σ sched = true) : ∀ p, ∀ m ∈ delivered2 sched p, Q sched p m := by
  induction sched using snoc_induction with
  | nil => intro p m hm; cases hm
  | snoc l e ih =>
    rw [causalFrom2_append, Bool.and_eq_true] at hc
    have ih := ih hc.1
    intro p m hm
    rw [delivered2_append, List.mem_append] at hm
    rcases hm with hm | hm
    · exact mono l e p m (ih p m hm)
    · rw [delivered2_cons] at hm
      split at hm
      · next he =>
        obtain rfl : m = e.2 := by simpa [delivered2] using hm
        subst he
        have hcan : (σ.runFrom l).canDeliver e.1 e.2 = true := by
          have := hc.2; rwa [causalFrom2, causalFrom2, Bool.and_true] at this
        exact step l e.1 e.2 ih (List.contains_iff_mem.mp hcan)
      · cases hm

theorem delivered_emitted2 (sched : Sched2) (p : Side) :
    ∀ σ : Sys2, causalFrom2 σ sched = true → ∀ m ∈ delivered2 sched p, m ∈ ((σ.runFrom sched).get p.other).out := by
  intro σ hc
  refine causal_induction (Q := fun l p m => m ∈ ((σ.runFrom l).get p.other).out) ?_ ?_ sched hc p
  · intro l e p m h
    rw [runFrom_append]
    exact deliver_out_mono _ _ _ _ m h
  · intro l p m _ h
    rw [runFrom_append]
    show m ∈ (((σ.runFrom l).deliver p m).get p.other).out
    rw [get_deliver_other _ _ _ _ p.other_ne]
    exact h

section Session
variable {scL scF : Script2}

theorem delivered_ideal (ok : Session2Ok scL scF) (sched : Sched2) (hc : Causal2 scL scF sched = true) (p : Side) :
    ∀ m ∈ delivered2 sched p, m ∈ idealOut2 (scriptOf scL scF p.other) := by
  refine causal_induction (Q := fun _ p m => m ∈ idealOut2 (scriptOf scL scF p.other)) (fun _ _ _ _ h => h) ?_ sched hc p
  intro l p m ih h
  -- `run2_keeps` covers the sender's run: by `ih` what was delivered before is in the closed-form lists
  have R := run2_keeps (ok.feeds p.other).honest (ok.feeds p.other).value (ok.noFinErr p.other) _ (ih p.other)
  rw [← run_get] at R
  exact R.track.out_sub m h

theorem party_runinv (ok : Session2Ok scL scF) (sched : Sched2) (hc : Causal2 scL scF sched = true) (p : Side) :
    RunInv (scriptOf scL scF p) (idealOut2 (scriptOf scL scF p.other)) (valFor (scriptOf scL scF p))
      (delivered2 sched p) ((Sys2.run scL scF sched).get p) := by
  rw [run_get]
  exact run2_keeps (ok.feeds p).honest (ok.feeds p).value (ok.noFinErr p) _ (delivered_ideal ok sched hc p)

theorem emitted_honest2 (ok : Session2Ok scL scF) (sched : Sched2) (hc : Causal2 scL scF sched = true) (p : Side) :
    Honest2 (scriptOf scL scF p) ((Sys2.run scL scF sched).get p.other).out :=
  (ok.feeds p).honest.subset (party_runinv ok sched hc p.other).track.out_sub

theorem no_honest_abort2 (ok : Session2Ok scL scF) (sched : Sched2) (hc : Causal2 scL scF sched = true) (p : Side) :
    ((Sys2.run scL scF sched).get p).err = none :=
  (party_runinv ok sched hc p).track.err

theorem schedule_feq2 (ok : Session2Ok scL scF) (s1 s2 : Sched2) (c1 : Causal2 scL scF s1 = true) (p : Side)
    (hsame : ∀ m, m ∈ delivered2 s1 p ↔ m ∈ delivered2 s2 p) :
    FEq2 ((Sys2.run scL scF s1).get p) ((Sys2.run scL scF s2).get p) := by
  rw [run_get, run_get]
  exact (run2_out (ok.feeds p).honest _ _ (delivered_ideal ok s1 c1 p) hsame).feq

end Session

/-- The party running `a` waits (state `sa`, the deliveries `l` are in its store); the other party runs `b` (state
    `sb`), and everything it has emitted is in `l`. -/
theorem blocked {a b : Script2} (incr : b.rounds.Pairwise (fun x y => x.num < y.num))
    (fed : ∀ sp ∈ a.rounds, sp.recv = true → ∃ r ∈ b.rounds.dropLast, r.send = true ∧ r.sendNum = sp.num ∧
      (r.num < sp.num ∨ (r.num = sp.num ∧ r.recv = false)))
    {M l : List Msg} {valb : Nat → Nat} {sa sb : State2}
    (inv : Inv2 a M sa) (hw : canAdvance sa = false) (has : ∀ x ∈ l, (lookup2 sa.msgs x.rnd).isSome = true)
    (trb : Track b valb sb) (fair : ∀ m ∈ sb.out, m ∈ l) :
    terminal2 sb = false ∧ (curRound sb).num ≤ (curRound sa).num ∧
      ((curRound sb).num = (curRound sa).num → (curRound sb).recv = false) := by
  obtain ⟨hrecv, hnone⟩ := stuck_recv inv hw
  have hne : a.rounds ≠ [] := fun h => by
    have : curRound sa = default := by rw [curRound_eq inv.hsc, h]; rfl
    rw [this] at hrecv; cases hrecv
  obtain ⟨r, hr, hsend, hnum, hrank⟩ := fed _ (inv.curRound_mem hne) hrecv
  obtain ⟨j, hj, rfl⟩ := List.mem_iff_getElem.mp hr
  rw [List.getElem_dropLast] at hsend hnum hrank
  have hj : j + 1 < b.rounds.length := Nat.add_lt_of_lt_sub (List.length_dropLast ▸ hj)
  have hjc := hrank.elim Nat.le_of_lt fun h => Nat.le_of_eq h.1
  -- the order facts below are spelled out: `omega` is slow over this context
  -- the sending round has not been left: its message would have been delivered and be in the waiting party's store
  have hidx : sb.idx ≤ j := Nat.le_of_not_lt fun h => by
    have := has _ (fair _ (trb.sent
      (List.mem_take_iff_getElem.mpr ⟨j, Nat.lt_min.mpr ⟨h, Nat.lt_of_succ_lt hj⟩, rfl⟩) hsend))
    rw [inv.cur, ← hnum] at hnone
    exact Bool.false_ne_true ((congrArg Option.isSome hnone).symm.trans this)
  have hterm : terminal2 sb = false := by
    cases ht : terminal2 sb with
    | false => rfl
    | true =>
      exact absurd (Nat.lt_of_lt_of_le hj (Nat.le_trans (trb.finished ht).1 (Nat.succ_le_succ hidx))) (Nat.lt_irrefl _)
  have hil : sb.idx < b.rounds.length := Nat.lt_of_le_of_lt hidx (Nat.lt_of_succ_lt hj)
  rw [curRound_eq trb.hsc, ← List.getElem_eq_getD (h := hil)]
  rcases Nat.lt_or_eq_of_le hidx with hlt | heq
  · have := Nat.lt_of_lt_of_le (List.pairwise_iff_getElem.mp incr sb.idx j hil (Nat.lt_of_succ_lt hj) hlt) hjc
    exact ⟨hterm, Nat.le_of_lt this, fun e => absurd e (Nat.ne_of_lt this)⟩
  · subst heq
    exact ⟨hterm, hjc, fun e => hrank.elim (fun h => absurd e (Nat.ne_of_lt h)) (·.2)⟩

section Complete
variable {scL scF : Script2}

theorem Session2Live.incr (live : Session2Live scL scF) (p : Side) :
    (scriptOf scL scF p).rounds.Pairwise (fun a b => a.num < b.num) := by
  cases p
  · exact live.incrL
  · exact live.incrF

theorem Session2Live.fed (live : Session2Live scL scF) (p : Side) :
    ∀ sp ∈ (scriptOf scL scF p).rounds, sp.recv = true → ∃ r ∈ (scriptOf scL scF p.other).rounds.dropLast,
      r.send = true ∧ r.sendNum = sp.num ∧ (r.num < sp.num ∨ (r.num = sp.num ∧ r.recv = false)) := by
  cases p
  · exact live.recvL
  · exact live.recvF

theorem complete2_iff (σ : Sys2) (sched : Sched2) :
    Complete2 σ sched = true ↔ ∀ p, ∀ m ∈ (σ.get p.other).out, m ∈ delivered2 sched p := by
  unfold Complete2
  simp only [Bool.and_eq_true, List.all_eq_true, List.contains_iff_mem]
  exact ⟨fun h p => match p with | .L => h.1 | .F => h.2, fun h => ⟨h .L, h .F⟩⟩

theorem terminal_or_waits (ok : Session2Ok scL scF) (live : Session2Live scL scF) (sched : Sched2)
    (hc : Causal2 scL scF sched = true) (hfair : Complete2 (Sys2.run scL scF sched) sched = true) (p : Side) :
    terminal2 ((Sys2.run scL scF sched).get p) = true ∨
      Waits (scriptOf scL scF p) (idealOut2 (scriptOf scL scF p.other)) (delivered2 sched p)
        ((Sys2.run scL scF sched).get p) := by
  rcases (party_runinv ok sched hc p).rest with ht | w | ⟨hn, e0⟩
  · exact Or.inl ht
  · exact Or.inr w
  cases p with
  | L => exact absurd (Or.inl ok.leaderL) hn
  | F =>
    have hd : delivered2 sched .F = [] := (canon2_asleep hn).1
    -- a follower that was given nothing: its first round expects input, or else the leader's first round has sent a
    -- message, which a fair schedule has delivered
    rcases live.wake with hr | ⟨hr, hs, hlen⟩
    · refine Or.inr ⟨e0 ▸ state0_inv _ _, fun x hx => absurd (hd ▸ hx) List.not_mem_nil, ?_⟩
      rw [e0, canAdvance_eq rfl]
      show (!(scF.rounds.getD 0 default).recv || _) = false
      rw [hr]
      rfl
    · have hout := (party_runinv ok sched hc .L).first_sent ok.leaderL hr hs hlen
      have := (complete2_iff _ _).mp hfair .F _ hout
      rw [hd] at this
      cases this

theorem all_terminal (ok : Session2Ok scL scF) (live : Session2Live scL scF) (sched : Sched2)
    (hc : Causal2 scL scF sched = true) (hfair : Complete2 (Sys2.run scL scF sched) sched = true) (p : Side) :
    terminal2 ((Sys2.run scL scF sched).get p) = true := by
  have D := terminal_or_waits ok live sched hc hfair
  have B := fun q (w : Waits (scriptOf scL scF q) (idealOut2 (scriptOf scL scF q.other)) (delivered2 sched q)
      ((Sys2.run scL scF sched).get q)) =>
    blocked (live.incr q.other) (live.fed q) w.1 w.2.2 w.2.1 (party_runinv ok sched hc q.other).track
      ((complete2_iff _ _).mp hfair q)
  rcases D p with ht | wp
  · exact ht
  obtain ⟨hq, h1, h2⟩ := B p wp
  rcases D p.other with ht | wq
  · rw [hq] at ht; cases ht
  obtain ⟨-, h3, -⟩ := B p.other wq
  rw [Side.other_other] at h3
  -- `blocked` both ways makes the round numbers equal, so the other party's round needs no input; and yet it waits
  have := h2 (Nat.le_antisymm h1 h3)
  rw [(stuck_recv wq.1 wq.2.2).1] at this
  cases this

theorem complete_schedule_completes2 (ok : Session2Ok scL scF) (live : Session2Live scL scF) (sched : Sched2)
    (hc : Causal2 scL scF sched = true) (hfair : Complete2 (Sys2.run scL scF sched) sched = true) (p : Side) :
    terminal2 ((Sys2.run scL scF sched).get p) = true ∧ ((Sys2.run scL scF sched).get p).err = none ∧
    ((Sys2.run scL scF sched).get p).result = some (sessionValue2 (scriptOf scL scF p)) ∧
    ((Sys2.run scL scF sched).get p).out = idealOut2 (scriptOf scL scF p) ∧
    ((Sys2.run scL scF sched).get p).closes = 1 ∧
    (∀ m, m ∈ delivered2 sched p ↔ m ∈ idealOut2 (scriptOf scL scF p.other)) := by
  have ht := all_terminal ok live sched hc hfair
  have R := party_runinv ok sched hc p
  obtain ⟨h1, h2⟩ := R.track.terminal (ht p)
  refine ⟨ht p, R.track.err, by rw [sessionValue2_eq]; exact h1, h2, ?_,
    fun m => ⟨delivered_ideal ok sched hc p m, fun hm => ?_⟩⟩
  · have g : Good2 ((Sys2.run scL scF sched).get p) := by rw [run_get]; exact run2_good _ _
    exact (g.done (ht p)).1
  · apply (complete2_iff _ _).mp hfair p
    rw [((party_runinv ok sched hc p.other).track.terminal (ht p.other)).2]
    exact hm

end Complete

end Mps.System2
