import Mathlib.Algebra.Group.Basic
import Mathlib.Algebra.Group.Subgroup.Ker
import Mathlib.Algebra.Group.TypeTags.Basic
import Mathlib.Algebra.Module.Basic
import Mathlib.Tactic.Abel
import Mathlib.Tactic.Ring
import Mathlib.Tactic.Linarith
import Mathlib.Data.Int.ModEq
import Mathlib.Data.Nat.Size
import Mathlib.Data.ZMod.Basic
import Mathlib.NumberTheory.Basic

/-!
# Completeness of the 15 Fiat–Shamir Σ-protocols of `/repo/pkg/zk`, at the level of the verification equations

Every `/repo/pkg/zk/<name>/<name>.go` follows one pattern: a group homomorphism `φ : W → G`, a statement
`X = φ w`, a commitment `A = φ α`, a challenge `e : ℤ`, a response `z = α + e • w`; `Verify` checks
`φ z = A + e • X`. `sigma_complete` is that equation for every `α`, `w`, `e` (zero and negative included); the
instance theorems are corollaries: their homomorphisms are products of `k ↦ k • g`, `k ↦ g ^ k` and `ρ ↦ ρ ^ N`
(Paillier `(k, ρ) ↦ (1+N)^k · ρ^N`, Pedersen `(x, y) ↦ s^x · t^y`), and the equation of a product is the product
of the equations of its factors. Three are not: zkprm and zkmod live in a monoid with `t ^ φ = 1` and reduce
exponents mod `φ`, and the scalar equation of zkdec is a ring identity in `ZMod q`.

Conventions (they follow the Go code):
* curve group: any `AddCommGroup G`; `q : ℤ` with `q • g = 0` for the points involved; scalars are integers and
  the code's reduction `mod q` is `Int.emod` (`zsmul_emod_order`);
* units mod `N²` (Paillier) resp. mod `N̂` (Pedersen): any `CommGroup M`; exponents are signed (`saferith.Int`,
  `ExpI`: negative exponent = inverse), i.e. `zpow`; `Enc(m;ρ) = g^m * ρ^Nn` with `g = 1+N` and `Nn = N` as a
  natural exponent; `ct.Mul(k) = ct^k`, `ct.Add = *`, `Randomize(ν) = · * ν^Nn`;
* integer responses `z = α + e * x` are not reduced; nonce responses `r * ρ^e` are reduced mod `N` and then used
  as `(·)^N mod N²` (`nonce_response_reduced`);
* the range checks (`IsInIntervalLEps`: `|z| < 2^768`) are covered by `honest_response_bound*`.
-/

namespace Mps.ZK

open Multiplicative (ofAdd)

theorem sigma_complete {W G : Type*} [AddCommGroup W] [AddCommGroup G] (φ : W →+ G)
    (α w : W) (e : ℤ) : φ (α + e • w) = φ α + e • φ w := by
  rw [map_add, map_zsmul]

theorem response_unique_mod_kernel {W G : Type*} [AddCommGroup W] [AddCommGroup G] (φ : W →+ G)
    (A X : G) (e : ℤ) (z z' : W) (h : φ z = A + e • X) (h' : φ z' = A + e • X) :
    z - z' ∈ φ.ker ∧ φ (z - z') = 0 := by
  have : φ (z - z') = 0 := by rw [map_sub, h, h', sub_self]
  exact ⟨(AddMonoidHom.mem_ker).2 this, this⟩

theorem response_accepted_of_kernel {W G : Type*} [AddCommGroup W] [AddCommGroup G] (φ : W →+ G)
    (A X : G) (e : ℤ) (z z' : W) (h : φ z = A + e • X) (hk : z - z' ∈ φ.ker) :
    φ z' = A + e • X := by
  have h0 : φ z - φ z' = 0 := by rw [← map_sub]; exact (AddMonoidHom.mem_ker).1 hk
  rw [← h]; exact (sub_eq_zero.1 h0).symm

theorem response_unique_mod_kernel_iff {W G : Type*} [AddCommGroup W] [AddCommGroup G]
    (φ : W →+ G) (A X : G) (e : ℤ) (z z' : W) (h : φ z = A + e • X) :
    φ z' = A + e • X ↔ z - z' ∈ φ.ker :=
  ⟨fun h' => (response_unique_mod_kernel φ A X e z z' h h').1,
   response_accepted_of_kernel φ A X e z z' h⟩

theorem response_unique_of_injective {W G : Type*} [AddCommGroup W] [AddCommGroup G] (φ : W →+ G)
    (hφ : Function.Injective φ) (A X : G) (e : ℤ) (z z' : W)
    (h : φ z = A + e • X) (h' : φ z' = A + e • X) : z = z' :=
  hφ (h.trans h'.symm)

theorem zsmul_emod_order {G : Type*} [AddCommGroup G] {g : G} {q : ℤ} (hq : q • g = 0) (n : ℤ) :
    (n % q) • g = n • g := by
  conv_rhs => rw [← Int.emod_add_mul_ediv n q]
  rw [add_smul, mul_comm, mul_smul, hq, smul_zero, add_zero]

theorem order_smul {G : Type*} [AddCommGroup G] {g : G} {q : ℤ} (hq : q • g = 0) (b : ℤ) :
    q • (b • g) = 0 := by
  rw [smul_comm, hq, smul_zero]

/-! The multiplicative forms are the statements above read in `Additive W`, `Additive G` for
`MonoidHom.toAdditive φ`: there `e • ofMul X` is `ofMul (X ^ e)` and `ofMul z - ofMul z'` is `ofMul (z / z')` by
definition. -/

theorem sigma_complete_mul {W G : Type*} [CommGroup W] [CommGroup G] (φ : W →* G)
    (α w : W) (e : ℤ) : φ (α * w ^ e) = φ α * φ w ^ e :=
  sigma_complete (MonoidHom.toAdditive φ) (.ofMul α) (.ofMul w) e

theorem response_unique_mod_kernel_mul {W G : Type*} [CommGroup W] [CommGroup G] (φ : W →* G)
    (A X : G) (e : ℤ) (z z' : W) (h : φ z = A * X ^ e) (h' : φ z' = A * X ^ e) :
    z / z' ∈ φ.ker ∧ φ (z / z') = 1 :=
  response_unique_mod_kernel (MonoidHom.toAdditive φ) (.ofMul A) (.ofMul X) e (.ofMul z) (.ofMul z') h h'

theorem response_accepted_of_kernel_mul {W G : Type*} [CommGroup W] [CommGroup G] (φ : W →* G)
    (A X : G) (e : ℤ) (z z' : W) (h : φ z = A * X ^ e) (hk : z / z' ∈ φ.ker) :
    φ z' = A * X ^ e :=
  response_accepted_of_kernel (MonoidHom.toAdditive φ) (.ofMul A) (.ofMul X) e (.ofMul z) (.ofMul z') h hk

theorem response_unique_of_injective_mul {W G : Type*} [CommGroup W] [CommGroup G] (φ : W →* G)
    (hφ : Function.Injective φ) (A X : G) (e : ℤ) (z z' : W)
    (h : φ z = A * X ^ e) (h' : φ z' = A * X ^ e) : z = z' :=
  response_unique_of_injective (MonoidHom.toAdditive φ) hφ (.ofMul A) (.ofMul X) e (.ofMul z) (.ofMul z') h h'

theorem zpow_emod_order {M : Type*} [CommGroup M] {t : M} {q : ℤ} (hq : t ^ q = 1) (n : ℤ) :
    t ^ (n % q) = t ^ n :=
  zsmul_emod_order (g := Additive.ofMul t) hq n

theorem sigma_complete_zpow {G : Type*} [CommGroup G] (g : G) (α e x : ℤ) :
    g ^ (α + e * x) = g ^ α * (g ^ x) ^ e :=
  sigma_complete_mul (zpowersHom G g) (ofAdd α) (ofAdd x) e

theorem sigma_complete_zsmul {G : Type*} [AddCommGroup G] (g : G) (α e x : ℤ) :
    (α + e * x) • g = α • g + e • (x • g) :=
  sigma_complete (zmultiplesHom G g) α x e

/-- why the nonce response may be reduced mod `N` although it is used as an `N`-th power mod `N²` -/
theorem pow_N_congr_mod_sq (N : ℕ) (a b : ℤ) (h : a ≡ b [ZMOD N]) :
    a ^ N ≡ b ^ N [ZMOD (N : ℤ) ^ 2] := by
  have h1 : (N : ℤ) ∣ b - a := (Int.modEq_iff_dvd).1 h
  have h2 := dvd_sub_pow_of_dvd_sub (R := ℤ) (p := N) h1 1
  rw [pow_one] at h2
  exact (Int.modEq_iff_dvd).2 h2

/-- as coded: `w = r * ρ^e mod N`, then `w^N mod N²` -/
theorem nonce_response_reduced (N e : ℕ) (r ρ : ℤ) :
    ((r * ρ ^ e) % N) ^ N ≡ (r * ρ ^ e) ^ N [ZMOD (N : ℤ) ^ 2] :=
  pow_N_congr_mod_sq N _ _ (Int.mod_modEq _ _)

/-- negative challenge: the code uses the inverse `ρi` of `ρ` mod `N` -/
theorem nonce_inverse_pow_N (N : ℕ) (ρ ρi : ℤ) (h : ρ * ρi ≡ 1 [ZMOD N]) :
    ρ ^ N * ρi ^ N ≡ 1 [ZMOD (N : ℤ) ^ 2] := by
  have := pow_N_congr_mod_sq N _ _ h
  rwa [mul_pow, one_pow] at this

/-- the curve equation with the code's reductions: `Verify: (z₁ mod q)•G = Y + (e mod q)•X`, `Y = (α mod q)•G`. -/
theorem curve_complete {G : Type*} [AddCommGroup G] (g : G) (q : ℤ) (hq : q • g = 0)
    (α x e : ℤ) :
    ((α + e * x) % q) • g = (α % q) • g + (e % q) • (x • g) := by
  rw [zsmul_emod_order hq, zsmul_emod_order hq, zsmul_emod_order (order_smul hq x)]
  exact sigma_complete_zsmul g α e x

/-- `pkg/zk/sch`: `Verify: z•gen = C + e•X`, `z = a + e x mod q`, `C = a•gen`, `X = x•gen`. -/
theorem sch_complete {G : Type*} [AddCommGroup G] (g : G) (q : ℤ) (hq : q • g = 0)
    (a x e : ℤ) :
    ((a + e * x) % q) • g = a • g + e • (x • g) := by
  rw [zsmul_emod_order hq]
  exact sigma_complete_zsmul g a e x

/-- `pkg/zk/nth`: `Verify: z^N = R^e · A (mod N²)`, `z = α ρ^e`, `A = α^N`, `R = ρ^N`. -/
theorem nth_complete {M : Type*} [CommGroup M] (Nn : ℕ) (α ρ : M) (e : ℤ) :
    (α * ρ ^ e) ^ Nn = (ρ ^ Nn) ^ e * α ^ Nn := by
  have := sigma_complete_mul (powMonoidHom (α := M) Nn) α ρ e
  simpa [mul_comm] using this

/-- Pedersen: `Verify(z₁, z₃, e, C, S)`: `s^z₁ t^z₃ = C · S^e` with `C = s^α t^γ`, `S = s^k t^μ`. -/
theorem pedersen_complete {M : Type*} [CommGroup M] (s t : M) (α γ k μ e : ℤ) :
    s ^ (α + e * k) * t ^ (γ + e * μ) = (s ^ α * t ^ γ) * (s ^ k * t ^ μ) ^ e := by
  rw [sigma_complete_zpow, sigma_complete_zpow, mul_zpow, mul_mul_mul_comm]

/-- Paillier: `Enc(z₁; z₂) = (e ⊙ K) ⊕ A` with `K = Enc(k;ρ) = g^k ρ^N`, `A = Enc(α;r)`,
`z₁ = α + e k`, `z₂ = r ρ^e`. -/
theorem paillier_enc_complete {M : Type*} [CommGroup M] (g : M) (Nn : ℕ) (r ρ : M)
    (α k e : ℤ) :
    g ^ (α + e * k) * (r * ρ ^ e) ^ Nn = (g ^ k * ρ ^ Nn) ^ e * (g ^ α * r ^ Nn) := by
  rw [sigma_complete_zpow, nth_complete, mul_zpow, mul_comm (g ^ α), mul_mul_mul_comm]

/-- the affine Paillier equation of `affg`/`affp`:
`Enc₀(z₂; w) ⊕ (z₁ ⊙ Kv) = (e ⊙ Dv) ⊕ A`, `Dv = (x ⊙ Kv) ⊕ Enc₀(y; s)`,
`A = (α ⊙ Kv) ⊕ Enc₀(β; ρ)`. -/
theorem paillier_aff_complete {M : Type*} [CommGroup M] (Kv g : M) (Nn : ℕ) (ρ s : M)
    (α β x y e : ℤ) :
    Kv ^ (α + e * x) * (g ^ (β + e * y) * (ρ * s ^ e) ^ Nn)
      = (Kv ^ x * (g ^ y * s ^ Nn)) ^ e * (Kv ^ α * (g ^ β * ρ ^ Nn)) := by
  rw [sigma_complete_zpow, paillier_enc_complete, mul_zpow (Kv ^ x), mul_comm (Kv ^ α), mul_mul_mul_comm]

/-- `pkg/zk/log`: `H = b•G`, `X = a•G`, `Y = a•H`, `A = α•G`, `B = α•H`, `C = β•G`,
`z₁ = α + e a mod q`, `z₂ = β + e b mod q`;
`Verify: z₁•G = A + e•X ∧ z₁•H = B + e•Y ∧ z₂•G = C + e•H`. -/
theorem log_complete {G : Type*} [AddCommGroup G] (g : G) (q : ℤ) (hq : q • g = 0)
    (a b α β e : ℤ) :
    ((α + e * a) % q) • g = α • g + e • (a • g) ∧
    ((α + e * a) % q) • (b • g) = α • (b • g) + e • (a • (b • g)) ∧
    ((β + e * b) % q) • g = β • g + e • (b • g) :=
  ⟨sch_complete g q hq α a e, sch_complete (b • g) q (order_smul hq b) α a e,
   sch_complete g q hq β b e⟩

/-- `pkg/zk/elog`: `L = λ•G`, `M = y•G + λ•X`, `Y = y•H`; `A = α•G`, `N = m•G + α•X`, `B = m•H`;
`z = α + e λ mod q`, `u = m + e y mod q`;
`Verify: z•G = A + e•L ∧ u•G + z•X = N + e•M ∧ u•H = B + e•Y`
(`X` = ElGamal public key, `H` = `public.Base`: any points of the group). -/
theorem elog_complete {G : Type*} [AddCommGroup G] (g X H : G) (q : ℤ)
    (hg : q • g = 0) (hX : q • X = 0) (hH : q • H = 0) (lam y α m e : ℤ) :
    ((α + e * lam) % q) • g = α • g + e • (lam • g) ∧
    ((m + e * y) % q) • g + ((α + e * lam) % q) • X
        = (m • g + α • X) + e • (y • g + lam • X) ∧
    ((m + e * y) % q) • H = m • H + e • (y • H) := by
  refine ⟨sch_complete g q hg α lam e, ?_, sch_complete H q hH m y e⟩
  -- the sum of the Schnorr equations for `u` at `G` and for `z` at `X`
  rw [sch_complete g q hg, sch_complete X q hX, smul_add, add_add_add_comm]

/-- `pkg/zk/enc`: the Pedersen check mod `N̂` and the Paillier check mod `N²`. -/
theorem enc_complete {P M : Type*} [CommGroup P] [CommGroup M] (s t : P) (g : M) (Nn : ℕ)
    (r ρ : M) (α γ k μ e : ℤ) :
    s ^ (α + e * k) * t ^ (γ + e * μ) = (s ^ α * t ^ γ) * (s ^ k * t ^ μ) ^ e ∧
    g ^ (α + e * k) * (r * ρ ^ e) ^ Nn = (g ^ k * ρ ^ Nn) ^ e * (g ^ α * r ^ Nn) :=
  ⟨pedersen_complete s t α γ k μ e, paillier_enc_complete g Nn r ρ α k e⟩

/-- `pkg/zk/logstar`: `enc` plus `(z₁ mod q)•G = Y + (e mod q)•X`, `Y = (α mod q)•G`, `X = x•G`. -/
theorem logstar_complete {P M G : Type*} [CommGroup P] [CommGroup M] [AddCommGroup G]
    (s t : P) (g : M) (Nn : ℕ) (r ρ : M) (G0 : G) (q : ℤ) (hq : q • G0 = 0)
    (α γ x μ e : ℤ) :
    s ^ (α + e * x) * t ^ (γ + e * μ) = (s ^ α * t ^ γ) * (s ^ x * t ^ μ) ^ e ∧
    g ^ (α + e * x) * (r * ρ ^ e) ^ Nn = (g ^ x * ρ ^ Nn) ^ e * (g ^ α * r ^ Nn) ∧
    ((α + e * x) % q) • G0 = (α % q) • G0 + (e % q) • (x • G0) :=
  ⟨pedersen_complete s t α γ x μ e, paillier_enc_complete g Nn r ρ α x e,
   curve_complete G0 q hq α x e⟩

/-- `pkg/zk/affg`.  `M0` = units mod `N₀²` (verifier key, `g0 = 1+N₀`), `M1` = units mod `N₁²`
(prover key), `P` = units mod `N̂`.
Secrets `x, y, s (=S), r (=R)`, Pedersen secrets `m, μ`; masks `α, β, ρ, ρy, γ, δ`.
`z₁ = α+e x`, `z₂ = β+e y`, `z₃ = γ+e m`, `z₄ = δ+e μ`, `w = ρ s^e`, `wy = ρy r^e`. -/
theorem affg_complete {P M0 M1 G : Type*} [CommGroup P] [CommGroup M0] [CommGroup M1]
    [AddCommGroup G] (sP tP : P) (Kv g0 : M0) (N0 : ℕ) (ρ s : M0) (g1 : M1) (N1 : ℕ)
    (ρy r : M1) (G0 : G) (q : ℤ) (hq : q • G0 = 0) (α β x y γ m δ μ e : ℤ) :
    -- Aux.Verify(z₁, z₃, e, E, S)
    sP ^ (α + e * x) * tP ^ (γ + e * m) = (sP ^ α * tP ^ γ) * (sP ^ x * tP ^ m) ^ e ∧
    -- Aux.Verify(z₂, z₄, e, F, T)
    sP ^ (β + e * y) * tP ^ (δ + e * μ) = (sP ^ β * tP ^ δ) * (sP ^ y * tP ^ μ) ^ e ∧
    -- Enc₀(z₂;w) ⊕ (z₁ ⊙ Kv) = (e ⊙ Dv) ⊕ A
    Kv ^ (α + e * x) * (g0 ^ (β + e * y) * (ρ * s ^ e) ^ N0)
      = (Kv ^ x * (g0 ^ y * s ^ N0)) ^ e * (Kv ^ α * (g0 ^ β * ρ ^ N0)) ∧
    -- (z₁ mod q)•G = Bx + (e mod q)•Xp
    ((α + e * x) % q) • G0 = (α % q) • G0 + (e % q) • (x • G0) ∧
    -- Enc₁(z₂; wy) = (e ⊙ Fp) ⊕ By
    g1 ^ (β + e * y) * (ρy * r ^ e) ^ N1 = (g1 ^ y * r ^ N1) ^ e * (g1 ^ β * ρy ^ N1) :=
  ⟨pedersen_complete sP tP α γ x m e, pedersen_complete sP tP β δ y μ e,
   paillier_aff_complete Kv g0 N0 ρ s α β x y e, curve_complete G0 q hq α x e,
   paillier_enc_complete g1 N1 ρy r β y e⟩

/-- `pkg/zk/affp`: as `affg`, the curve equation replaced by
`Enc₁(z₁; wx) = (e ⊙ Xp) ⊕ Bx`, `Xp = Enc₁(x; rx)`, `Bx = Enc₁(α; ρx)`. -/
theorem affp_complete {P M0 M1 : Type*} [CommGroup P] [CommGroup M0] [CommGroup M1]
    (sP tP : P) (Kv g0 : M0) (N0 : ℕ) (ρ s : M0) (g1 : M1) (N1 : ℕ)
    (ρx rx ρy r : M1) (α β x y γ m δ μ e : ℤ) :
    Kv ^ (α + e * x) * (g0 ^ (β + e * y) * (ρ * s ^ e) ^ N0)
      = (Kv ^ x * (g0 ^ y * s ^ N0)) ^ e * (Kv ^ α * (g0 ^ β * ρ ^ N0)) ∧
    g1 ^ (α + e * x) * (ρx * rx ^ e) ^ N1 = (g1 ^ x * rx ^ N1) ^ e * (g1 ^ α * ρx ^ N1) ∧
    g1 ^ (β + e * y) * (ρy * r ^ e) ^ N1 = (g1 ^ y * r ^ N1) ^ e * (g1 ^ β * ρy ^ N1) ∧
    sP ^ (α + e * x) * tP ^ (γ + e * m) = (sP ^ α * tP ^ γ) * (sP ^ x * tP ^ m) ^ e ∧
    sP ^ (β + e * y) * tP ^ (δ + e * μ) = (sP ^ β * tP ^ δ) * (sP ^ y * tP ^ μ) ^ e :=
  ⟨paillier_aff_complete Kv g0 N0 ρ s α β x y e, paillier_enc_complete g1 N1 ρx rx α x e,
   paillier_enc_complete g1 N1 ρy r β y e, pedersen_complete sP tP α γ x m e,
   pedersen_complete sP tP β δ y μ e⟩

/-- `pkg/zk/mul`: `C = Y^x ρ^N`, `X = Enc(x; ρx)`, `A = Y^α r^N`, `B = Enc(α; s)`,
`z = α + e x`, `u = r ρ^e`, `v = s ρx^e`. -/
theorem mul_complete {M : Type*} [CommGroup M] (Y g : M) (Nn : ℕ) (r ρ s ρx : M) (α x e : ℤ) :
    Y ^ (α + e * x) * (r * ρ ^ e) ^ Nn = (Y ^ x * ρ ^ Nn) ^ e * (Y ^ α * r ^ Nn) ∧
    g ^ (α + e * x) * (s * ρx ^ e) ^ Nn = (g ^ x * ρx ^ Nn) ^ e * (g ^ α * s ^ Nn) :=
  ⟨paillier_enc_complete Y Nn r ρ α x e, paillier_enc_complete g Nn s ρx α x e⟩

/-- `pkg/zk/mulstar`: `D = C^x ρ^N₀`, `A = C^α r^N₀`, Pedersen `E = s^α t^γ`, `S = s^x t^m`,
curve `Bx = (α mod q)•G`, `X = x•G`. -/
theorem mulstar_complete {P M G : Type*} [CommGroup P] [CommGroup M] [AddCommGroup G]
    (sP tP : P) (C : M) (Nn : ℕ) (r ρ : M) (G0 : G) (q : ℤ) (hq : q • G0 = 0)
    (α γ x m e : ℤ) :
    sP ^ (α + e * x) * tP ^ (γ + e * m) = (sP ^ α * tP ^ γ) * (sP ^ x * tP ^ m) ^ e ∧
    C ^ (α + e * x) * (r * ρ ^ e) ^ Nn = (C ^ x * ρ ^ Nn) ^ e * (C ^ α * r ^ Nn) ∧
    ((α + e * x) % q) • G0 = (α % q) • G0 + (e % q) • (x • G0) :=
  ⟨pedersen_complete sP tP α γ x m e, paillier_enc_complete C Nn r ρ α x e,
   curve_complete G0 q hq α x e⟩

/-- `pkg/zk/dec`: Pedersen (`T = s^α t^ν`, `S = s^y t^μ`), Paillier (`C = Enc(y;ρ)`, `A = Enc(α;r)`) and the
scalar equation in `ZMod q`, unreduced and as coded. -/
theorem dec_complete {P M : Type*} [CommGroup P] [CommGroup M] (s t : P) (g : M) (Nn : ℕ)
    (r ρ : M) (q : ℕ) (α ν y μ e : ℤ) :
    s ^ (α + e * y) * t ^ (ν + e * μ) = (s ^ α * t ^ ν) * (s ^ y * t ^ μ) ^ e ∧
    g ^ (α + e * y) * (r * ρ ^ e) ^ Nn = (g ^ y * ρ ^ Nn) ^ e * (g ^ α * r ^ Nn) ∧
    ((α + e * y : ℤ) : ZMod q) = (e : ZMod q) * (y : ZMod q) + (α : ZMod q) ∧
    (((α + e * y) % q : ℤ) : ZMod q)
      = ((e % q : ℤ) : ZMod q) * ((y % q : ℤ) : ZMod q) + ((α % q : ℤ) : ZMod q) :=
  ⟨pedersen_complete s t α ν y μ e, paillier_enc_complete g Nn r ρ α y e, by push_cast; ring, by
    -- as coded, `z₁ mod q = (e mod q)·X + Γ` with `X = y mod q`, `Γ = α mod q`: the casts forget the reductions
    simp only [ZMod.intCast_mod]
    push_cast
    ring⟩

/-- `pkg/zk/prm` (one of the 80 parallel rounds) with the challenge bit as a factor: `t^φ = 1`, `A = t^a`,
`s = t^λ`, `z = a + b·λ mod φ`; `Verify: t^z = A · s^b`. -/
theorem prm_complete {M : Type*} [Monoid M] (t : M) (φ : ℕ) (hφ : t ^ φ = 1)
    (a lam : ℕ) (b : Bool) :
    t ^ ((a + (if b then lam else 0)) % φ) = t ^ a * (if b then t ^ lam else 1) := by
  rw [← pow_eq_pow_mod _ hφ]
  cases b <;> simp [pow_add]

/-- `pkg/zk/prm` as coded: `z = a` (unreduced) if the challenge bit is `false`, `z = (a + λ) mod φ` otherwise;
`rhs = A` resp. `A · s`. -/
theorem prm_complete_code {M : Type*} [Monoid M] (t : M) (φ : ℕ) (hφ : t ^ φ = 1)
    (a lam : ℕ) (b : Bool) :
    t ^ (if b then (a + lam) % φ else a) = if b then t ^ a * t ^ lam else t ^ a := by
  cases b
  · simp
  · simp only [if_true]
    rw [← pow_eq_pow_mod _ hφ, pow_add]

/-- `pkg/zk/encelg`: Paillier (`C = Enc(x;ρ)`, `D = Enc(α;r)`), Pedersen (`S = s^x t^μ`,
`T = s^α t^γ`), and the two curve equations with `A = a•G`, `B = b•G`, `X = (a b + x)•G`,
`Y = β•A + (α mod q)•G`, `Z = β•G`, `w = (e mod q)·b + β mod q`, `z₁ = α + e x`:
`(z₁ mod q)•G + w•A = Y + (e mod q)•X` and `w•G = Z + (e mod q)•B`. -/
theorem encelg_complete {P M G : Type*} [CommGroup P] [CommGroup M] [AddCommGroup G]
    (s t : P) (g : M) (Nn : ℕ) (r ρ : M) (G0 : G) (q : ℤ) (hq : q • G0 = 0)
    (α γ x μ a b β e : ℤ) :
    g ^ (α + e * x) * (r * ρ ^ e) ^ Nn = (g ^ x * ρ ^ Nn) ^ e * (g ^ α * r ^ Nn) ∧
    s ^ (α + e * x) * t ^ (γ + e * μ) = (s ^ α * t ^ γ) * (s ^ x * t ^ μ) ^ e ∧
    ((α + e * x) % q) • G0 + (((e % q) * b + β) % q) • (a • G0)
      = (β • (a • G0) + (α % q) • G0) + (e % q) • ((a * b + x) • G0) ∧
    (((e % q) * b + β) % q) • G0 = β • G0 + (e % q) • (b • G0) := by
  refine ⟨paillier_enc_complete g Nn r ρ α x e, pedersen_complete s t α γ x μ e, ?_, ?_⟩
  · -- the curve equation for `z₁` at `G` plus the Schnorr equation for `w` at `A = a•G`
    rw [curve_complete G0 q hq, add_comm ((e % q) * b), sch_complete (a • G0) q (order_smul hq a),
      add_smul (a * b), mul_smul, smul_comm a b, smul_add]
    abel
  · rw [add_comm ((e % q) * b)]
    exact sch_complete G0 q hq β b (e % q)

/-- `pkg/zk/fac`: `N₀ = p·q`, `P = s^p t^μ`, `Q = s^q t^ν`, `A = s^α t^x`, `B = s^β t^y`,
`T = Q^α t^r`, `R = s^N₀ t^σ`; `z₁ = α+e p`, `z₂ = β+e q`, `w₁ = x+e μ`, `w₂ = y+e ν`,
`v = r + e(σ − ν p)`.  The third equation is Pedersen for the basis `(Q, t)` together with the
relation `R = Q^p · t^(σ − ν p)`. -/
theorem fac_complete {M : Type*} [CommGroup M] (s t : M) (N0 : ℕ) (p qq : ℤ)
    (hN : (N0 : ℤ) = p * qq) (ν μ σ α β r x y e : ℤ) :
    s ^ (α + e * p) * t ^ (x + e * μ) = (s ^ α * t ^ x) * (s ^ p * t ^ μ) ^ e ∧
    s ^ (β + e * qq) * t ^ (y + e * ν) = (s ^ β * t ^ y) * (s ^ qq * t ^ ν) ^ e ∧
    (s ^ qq * t ^ ν) ^ (α + e * p) * t ^ (r + e * (σ - ν * p))
      = (s ^ N0 * t ^ σ) ^ e * ((s ^ qq * t ^ ν) ^ α * t ^ r) := by
  refine ⟨pedersen_complete s t α x p μ e, pedersen_complete s t β y qq ν e, ?_⟩
  have hR : (s ^ qq * t ^ ν) ^ p * t ^ (σ - ν * p) = s ^ N0 * t ^ σ := by
    rw [mul_zpow, ← zpow_mul, ← zpow_mul, mul_assoc, ← zpow_add, ← zpow_natCast s N0, hN]
    congr 2 <;> ring
  rw [pedersen_complete (s ^ qq * t ^ ν) t α r p (σ - ν * p) e, hR, mul_comm]

/-- `pkg/zk/mod` (i): `z = y^(N⁻¹ mod φ)` is an `N`-th root of `y` (`Verify: z^N = y`). -/
theorem mod_nth_root {M : Type*} [Monoid M] (y : M) (φ N Ninv : ℕ) (hy : y ^ φ = 1)
    (hinv : N * Ninv ≡ 1 [MOD φ]) : (y ^ Ninv) ^ N = y := by
  rw [← pow_mul, mul_comm, pow_eq_pow_of_modEq hinv hy, pow_one]

/-- `pkg/zk/mod` (ii), `fourthRootExponent`: for `φ = 4m`, `m` odd and `y'` in the subgroup of
squares (order dividing `m`), `x = y'^(((φ+4)/8)² mod φ)` is a fourth root of `y'`
(`Verify: x⁴ = ±y·w^b = y'`). -/
theorem mod_fourth_root {M : Type*} [Monoid M] (y' : M) (φ m : ℕ) (hφ : φ = 4 * m)
    (hm : m % 2 = 1) (hy : y' ^ m = 1) :
    (y' ^ (((φ + 4) / 8) ^ 2 % φ)) ^ 4 = y' := by
  have hyφ : y' ^ φ = 1 := by rw [hφ, mul_comm, pow_mul, hy, one_pow]
  have h2 : 2 * ((φ + 4) / 8) = m + 1 := by omega
  have hy1 : y' ^ (m + 1) = y' := by rw [pow_succ, hy, one_mul]
  rw [← pow_eq_pow_mod _ hyφ, ← pow_mul]
  have : ((φ + 4) / 8) ^ 2 * 4 = (m + 1) * (m + 1) := by rw [← h2]; ring
  rw [this, pow_mul, hy1, hy1]

/-- `pkg/zk/mod`: both verification equations of one round. -/
theorem mod_complete {M : Type*} [Monoid M] (y y' : M) (φ m N Ninv : ℕ) (hφ : φ = 4 * m)
    (hm : m % 2 = 1) (hy : y ^ φ = 1) (hinv : N * Ninv ≡ 1 [MOD φ]) (hy' : y' ^ m = 1) :
    (y ^ Ninv) ^ N = y ∧ (y' ^ (((φ + 4) / 8) ^ 2 % φ)) ^ 4 = y' :=
  ⟨mod_nth_root y φ N Ninv hy hinv, mod_fourth_root y' φ m hφ hm hy'⟩

theorem abs_add_mul_le (α e x : ℤ) : |α + e * x| ≤ |α| + |e| * |x| :=
  (abs_add_le _ _).trans_eq (by rw [abs_mul])

theorem response_abs_lt {α e x B X R : ℤ} (he : |e| < B) (hx : |x| ≤ X) (hX : 0 < X)
    (hα : |α| ≤ R - B * X) : |α + e * x| < R := by
  have h : |e| * |x| ≤ (B - 1) * X :=
    mul_le_mul (Int.le_sub_one_of_lt he) hx (abs_nonneg _) (by linarith [abs_nonneg e])
  linarith [abs_add_mul_le α e x]

theorem honest_response_triangle (α e x : ℤ) (L : ℕ) (hx : |x| ≤ 2 ^ L) (he : |e| < 2 ^ 256) :
    |α + e * x| ≤ |α| + 2 ^ 256 * 2 ^ L :=
  (abs_add_mul_le α e x).trans
    (add_le_add_right (mul_le_mul he.le hx (abs_nonneg _) (by positivity)) _)

theorem honest_response_bound (α e x : ℤ) (L E : ℕ) (hx : |x| ≤ 2 ^ L) (he : |e| < 2 ^ 256)
    (hα : |α| ≤ 2 ^ (L + E) - 2 ^ 256 * 2 ^ L) : |α + e * x| < 2 ^ (L + E) :=
  response_abs_lt he hx (by positivity) hα

/-- `ℓ = 256`, `ε = 512`: `IsInIntervalLEps(z₁)`, i.e. `bitlen |z₁| ≤ 768`. -/
theorem honest_response_bound_LEps (α e x : ℤ) (hx : |x| ≤ 2 ^ 256) (he : |e| < 2 ^ 256)
    (hα : |α| ≤ 2 ^ 768 - 2 ^ 512) : |α + e * x| < 2 ^ 768 :=
  honest_response_bound α e x 256 512 hx he (by rw [← pow_add]; exact hα)

/-- `ℓ' = 1280`, `ε = 512`: `IsInIntervalLPrimeEps(z₂)`, i.e. `bitlen |z₂| ≤ 1792`. -/
theorem honest_response_bound_LPrimeEps (β e y : ℤ) (hy : |y| ≤ 2 ^ 1280) (he : |e| < 2 ^ 256)
    (hβ : |β| ≤ 2 ^ 1792 - 2 ^ 1536) : |β + e * y| < 2 ^ 1792 :=
  honest_response_bound β e y 1280 512 hy he (by rw [← pow_add]; exact hβ)

/-- for Mathlib's `Nat.size`; the model's `bitLen` (`z.TrueLen()`) has `bitLen_le_iff` in ZKModel -/
theorem bitlen_le_iff_abs_lt (z : ℤ) (n : ℕ) : Nat.size z.natAbs ≤ n ↔ |z| < 2 ^ n := by
  rw [Nat.size_le, Int.abs_eq_natAbs]
  exact_mod_cast Iff.rfl

section NonVacuity

private theorem seven_smul (P : ZMod 7) : (7 : ℤ) • P = 0 := by
  rw [zsmul_eq_mul]
  have : ((7 : ℤ) : ZMod 7) = 0 := by decide
  rw [this, zero_mul]

private theorem two_pow_three : (2 : ZMod 7) ^ 3 = 1 := by decide

example : ((5 : ℤ) - 5 ∈ (zmultiplesHom (ZMod 7) 1).ker) ∧
    (zmultiplesHom (ZMod 7) 1) ((5 : ℤ) - 5) = 0 :=
  response_unique_mod_kernel (zmultiplesHom (ZMod 7) 1) 2 1 3 5 5 (by decide) (by decide)
example : (zmultiplesHom (ZMod 7) 1) 12 = 2 + (3 : ℤ) • (1 : ZMod 7) :=
  response_accepted_of_kernel (zmultiplesHom (ZMod 7) 1) 2 1 3 5 12 (by decide)
    (by rw [AddMonoidHom.mem_ker]; decide)
example : (12 : ℤ) = 12 :=
  response_unique_of_injective (AddMonoidHom.id ℤ) (fun _ _ h => h) 2 5 2 12 12 rfl rfl
example : (ofAdd (5 : ℤ)) / ofAdd 5 ∈ (zpowersHom (ZMod 7)ˣ 1).ker ∧
    (zpowersHom (ZMod 7)ˣ 1) ((ofAdd (5 : ℤ)) / ofAdd 5) = 1 :=
  response_unique_mod_kernel_mul (zpowersHom (ZMod 7)ˣ 1) 1 1 3 (ofAdd 5) (ofAdd 5)
    (by rw [zpowersHom_apply, one_zpow, one_zpow, one_mul])
    (by rw [zpowersHom_apply, one_zpow, one_zpow, one_mul])
example : (zpowersHom (ZMod 7)ˣ 1) (ofAdd 4) = 1 * 1 ^ (3 : ℤ) :=
  response_accepted_of_kernel_mul (zpowersHom (ZMod 7)ˣ 1) 1 1 3 (ofAdd 5) (ofAdd 4)
    (by rw [zpowersHom_apply, one_zpow, one_zpow, one_mul])
    (by rw [MonoidHom.mem_ker, zpowersHom_apply, one_zpow])
example : (ofAdd (12 : ℤ)) = ofAdd 12 :=
  response_unique_of_injective_mul (MonoidHom.id (Multiplicative ℤ)) (fun _ _ h => h)
    (ofAdd 2) (ofAdd 5) 2 (ofAdd 12) (ofAdd 12) rfl rfl
example : ((-10 : ℤ) % 7) • (3 : ZMod 7) = (-10 : ℤ) • (3 : ZMod 7) :=
  zsmul_emod_order (seven_smul 3) (-10)
example : (ofAdd (2 : ZMod 3)) ^ ((-10 : ℤ) % 3) = (ofAdd (2 : ZMod 3)) ^ (-10 : ℤ) :=
  zpow_emod_order (by decide) (-10)
example : (12 : ℤ) ^ 5 ≡ 2 ^ 5 [ZMOD ((5 : ℕ) : ℤ) ^ 2] :=
  pow_N_congr_mod_sq 5 12 2 (by decide)
example : (2 : ℤ) ^ 5 * 3 ^ 5 ≡ 1 [ZMOD ((5 : ℕ) : ℤ) ^ 2] :=
  nonce_inverse_pow_N 5 2 3 (by decide)
example := curve_complete (3 : ZMod 7) 7 (seven_smul 3) (-4) 5 (-6)
example := sch_complete (3 : ZMod 7) 7 (seven_smul 3) (-4) 5 (-6)
example := log_complete (3 : ZMod 7) 7 (seven_smul 3) 2 (-3) 4 0 (-6)
example := elog_complete (3 : ZMod 7) 2 5 7 (seven_smul 3) (seven_smul 2) (seven_smul 5)
  2 (-3) 4 0 (-6)
example := logstar_complete (ofAdd (2 : ℤ)) (ofAdd 3) (ofAdd (26 : ℤ)) 5 (ofAdd 2) (ofAdd 3)
  (3 : ZMod 7) 7 (seven_smul 3) 1 (-2) 3 0 (-5)
example := affg_complete (ofAdd (2 : ℤ)) (ofAdd 3) (ofAdd (7 : ℤ)) (ofAdd 26) 5 (ofAdd 2)
  (ofAdd 3) (ofAdd (10 : ℤ)) 3 (ofAdd 2) (ofAdd 4)
  (3 : ZMod 7) 7 (seven_smul 3) 1 (-2) 3 0 (-5) 6 7 8 (-9)
example := mulstar_complete (ofAdd (2 : ℤ)) (ofAdd 3) (ofAdd (7 : ℤ)) 5 (ofAdd 2) (ofAdd 3)
  (3 : ZMod 7) 7 (seven_smul 3) 1 (-2) 3 0 (-5)
example := encelg_complete (ofAdd (2 : ℤ)) (ofAdd 3) (ofAdd (26 : ℤ)) 5 (ofAdd 2) (ofAdd 3)
  (3 : ZMod 7) 7 (seven_smul 3) 1 (-2) 3 0 (-5) 6 7 (-8)
example := prm_complete (2 : ZMod 7) 3 two_pow_three 2 2 true
example := prm_complete_code (2 : ZMod 7) 3 two_pow_three 2 2 true
example := fac_complete (ofAdd (2 : ℤ)) (ofAdd 3) 6 2 3 (by norm_num) 1 (-2) 3 0 (-5) 6 7 8 (-9)
example : ((2 : ZMod 7) ^ 2) ^ 2 = 2 :=
  mod_nth_root (2 : ZMod 7) 3 2 2 two_pow_three (by decide)
example : ((2 : ZMod 7) ^ (((12 + 4) / 8) ^ 2 % 12)) ^ 4 = 2 :=
  mod_fourth_root (2 : ZMod 7) 12 3 rfl rfl two_pow_three
example := mod_complete (4 : ZMod 7) (2 : ZMod 7) 12 3 5 5 rfl rfl (by decide) (by decide)
  two_pow_three
example : |(5 : ℤ) + (-3) * 2| ≤ |(5 : ℤ)| + 2 ^ 256 * 2 ^ 1 :=
  honest_response_triangle 5 (-3) 2 1 (by norm_num) (by norm_num)
set_option exponentiation.threshold 2048 in
example : |(5 : ℤ) + (-3) * 2| < 2 ^ (1 + 512) :=
  honest_response_bound 5 (-3) 2 1 512 (by norm_num) (by norm_num) (by norm_num)
set_option exponentiation.threshold 2048 in
example : |(2 ^ 768 - 2 ^ 512 : ℤ) + (2 ^ 256 - 1) * 2 ^ 256| < 2 ^ 768 :=
  honest_response_bound_LEps _ _ _ (by norm_num) (by norm_num) (by norm_num)
set_option exponentiation.threshold 2048 in
example : |(-(2 ^ 1792 - 2 ^ 1536) : ℤ) + (2 ^ 256 - 1) * (-2 ^ 1280)| < 2 ^ 1792 :=
  honest_response_bound_LPrimeEps _ _ _ (by norm_num) (by norm_num) (by norm_num)

end NonVacuity

end Mps.ZK
