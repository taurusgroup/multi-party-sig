import MpsProofs.Paillier
import Mathlib.NumberTheory.LucasPrimality
/-
  A PROVED key of more than 2048 bits, so that the hypotheses of `C12.mta_exact_params`
  (`KeyOK p q` together with `2^(BitsPaillier-1) ≤ p·q`) are known to be satisfiable:
      P = 3·2^2208 + 1,   Q = 5·2^1947 + 1        (Proth primes; N = P·Q has 4159 bits)
  Primality by Lucas' test (`lucas_primality`) with witnesses 11 and 3; the modular powers are
  evaluated by the kernel through `sqIter` (repeated squaring, GMP-accelerated `Nat` arithmetic).
-/
namespace Mps.Paillier

def sqIter : ℕ → ℕ → ℕ → ℕ
  | 0, x, _ => x
  | n + 1, x, m => sqIter n (x * x % m) m

theorem sqIter_eq (n x m : ℕ) : sqIter n (x % m) m = x ^ (2 ^ n) % m := by
  induction n generalizing x with
  | zero => simp [sqIter]
  | succ n ih => rw [sqIter, ← Nat.mul_mod, ih, ← pow_two, ← pow_mul, ← pow_succ']

/-- Lucas' test for `p = k·2^n + 1`: the prime divisors of `p − 1` are 2 and `k` -/
theorem prime_of_lucas_proth (k n a : ℕ) (hk : k.Prime) (hn : 0 < n)
    (h1 : sqIter n (a ^ k % (k * 2 ^ n + 1)) (k * 2 ^ n + 1) = 1)
    (h2 : sqIter (n - 1) (a ^ k % (k * 2 ^ n + 1)) (k * 2 ^ n + 1) ≠ 1)
    (h3 : sqIter n (a % (k * 2 ^ n + 1)) (k * 2 ^ n + 1) ≠ 1) :
    (k * 2 ^ n + 1).Prime := by
  have hp1 : 1 < k * 2 ^ n + 1 := Nat.succ_lt_succ (Nat.mul_pos hk.pos (Nat.two_pow_pos n))
  have key : ∀ e : ℕ, (a : ZMod (k * 2 ^ n + 1)) ^ e = 1 ↔ a ^ e % (k * 2 ^ n + 1) = 1 := fun e => by
    have := ZMod.natCast_eq_natCast_iff' (a ^ e) 1 (k * 2 ^ n + 1)
    rwa [Nat.cast_pow, Nat.cast_one, Nat.mod_eq_of_lt hp1] at this
  rw [sqIter_eq, ← pow_mul] at h1 h2
  rw [sqIter_eq] at h3
  refine lucas_primality _ (a : ZMod (k * 2 ^ n + 1)) ((key _).mpr h1) fun r hr hdvd => ?_
  rw [Nat.add_sub_cancel] at hdvd ⊢
  rw [Ne, key]
  rcases (Nat.Prime.dvd_mul hr).mp hdvd with h | h
  · rwa [(Nat.prime_dvd_prime_iff_eq hr hk).mp h, Nat.mul_div_cancel_left _ hk.pos]
  · rwa [(Nat.prime_dvd_prime_iff_eq hr Nat.prime_two).mp (hr.dvd_of_dvd_pow h),
      Nat.mul_div_assoc _ (dvd_pow_self 2 hn.ne'),
      Nat.div_eq_of_eq_mul_left Nat.two_pos (Nat.two_pow_pred_mul_two hn).symm]

def bigP : ℕ := 3 * 2 ^ 2208 + 1
def bigQ : ℕ := 5 * 2 ^ 1947 + 1

theorem bigP_prime : bigP.Prime :=
  prime_of_lucas_proth 3 2208 11 Nat.prime_three (by norm_num)
    (by decide +kernel) (by decide +kernel) (by decide +kernel)

theorem bigQ_prime : bigQ.Prime :=
  prime_of_lucas_proth 5 1947 3 Nat.prime_five (by norm_num)
    (by decide +kernel) (by decide +kernel) (by decide +kernel)

theorem keyOK_big : KeyOK bigP bigQ :=
  ⟨bigP_prime, bigQ_prime, by decide +kernel, by unfold Nat.Coprime; decide +kernel⟩

theorem big_bits : 2 ^ (bitsPaillier - 1) ≤ bigP * bigQ := by decide +kernel

end Mps.Paillier
