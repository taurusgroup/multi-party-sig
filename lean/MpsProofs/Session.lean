import MpsProofs.Typed
import MpsProofs.Digest
import Mps.Session
/-
  The session tag (C09), core-only. `sessionItems` is two optional items, each followed by a mandatory item of
  another domain, so the list can be read back front to back (`optItem_append_inj`); with the injective data
  encoders the items determine the parameters, and with the injective transcript the tag does, or `H` collides on
  the two transcripts (`ssidWith_inj`).
-/
namespace Mps

/-- what the length fields can hold: 8 bytes per id length, a uint32 threshold (less than `round.NewSession` demands) -/
def SessionParams.WF (p : SessionParams) : Prop :=
  p.ids.length < 2 ^ 64 ∧ (∀ i ∈ p.ids, i.length < 2 ^ 64) ∧ p.thr < 256 ^ 4

theorem sessionItems_eq (p : SessionParams) : sessionItems p =
    optItem (str "Session ID") p.sid ++ ⟨str "Protocol ID", p.proto⟩ ::
      (optItem (str "Group Name") p.group ++ ⟨str "IDSlice", idsData p.ids⟩ :: ⟨str "Threshold", be32 p.thr⟩ :: p.aux) := by
  unfold sessionItems
  cases p.sid <;> cases p.group <;> rfl

theorem sessionItems_injective (p q : SessionParams) (hp : p.WF) (hq : q.WF)
    (h : sessionItems p = sessionItems q) : p = q := by
  obtain ⟨sid, proto, group, ids, thr, aux⟩ := p
  obtain ⟨sid', proto', group', ids', thr', aux'⟩ := q
  simp only [sessionItems_eq] at h
  obtain ⟨hsid, hproto, h⟩ := optItem_append_inj (by decide) h
  obtain ⟨hgroup, hids, h⟩ := optItem_append_inj (by decide) h
  obtain ⟨hthr, haux⟩ := List.cons.inj h
  subst hsid hproto hgroup haux
  obtain rfl : ids = ids' := idsData_inj _ _ hp.2.1 hq.2.1 hids
  obtain rfl : thr = thr' := beN_inj 4 _ _ hp.2.2 hq.2.2 (Item.mk.inj hthr).2
  rfl

theorem ssidWith_inj (H : Bytes → Bytes) (p q : SessionParams) (hp : p.WF) (hq : q.WF)
    (wp : ∀ i ∈ sessionItems p, i.WF) (wq : ∀ i ∈ sessionItems q, i.WF) (h : ssidWith H p = ssidWith H q) :
    p = q ∨ (transcript (sessionItems p) ≠ transcript (sessionItems q) ∧
      H (transcript (sessionItems p)) = H (transcript (sessionItems q))) :=
  (hash_transcript_inj H _ _ wp wq h).imp_left (sessionItems_injective p q hp hq)

theorem hashForIDItems_inj (p q : SessionParams) (a b : Bytes) (ha : a ≠ []) (hb : b ≠ [])
    (h : hashForIDItems p a = hashForIDItems q b) : sessionItems p = sessionItems q ∧ a = b := by
  simp only [hashForIDItems, ha, hb, if_false] at h
  obtain ⟨h1, h2⟩ := List.append_inj' h rfl
  exact ⟨h1, (Item.mk.inj (List.cons.inj h2).1).2⟩

theorem hashForID_separates (p : SessionParams) (a b : Bytes) (ha : a ≠ []) (hb : b ≠ [])
    (h : hashForIDItems p a = hashForIDItems p b) : a = b :=
  (hashForIDItems_inj p p a b ha hb h).2

end Mps
