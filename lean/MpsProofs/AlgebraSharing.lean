import MpsProofs.Algebra
/-
  M2 lemmas, part 2: the interpolation functional `reconstructG` / `reconstruct` (linear for any id list; at
  admissible nodes it fixes constants and maps the samples of a polynomial of degree < |l| to its value at 0),
  the final computations of keygen / refresh / derive in closed form, chain keys.
-/
namespace Mps.Alg
open Polynomial

section
variable {F G ι : Type} [BEq ι] (O : Ops F G) {l : List ι} {x : ι → F}

theorem reconstructG_congr {V W : ι → G} (h : ∀ j ∈ l, V j = W j) :
    reconstructG O l x V = reconstructG O l x W := by
  unfold reconstructG; rw [List.map_congr_left fun j hj => by rw [h j hj]]

theorem reconstruct_congr {v w : ι → F} (h : ∀ j ∈ l, v j = w j) :
    reconstruct O l x v = reconstruct O l x w := by
  unfold reconstruct; rw [List.map_congr_left fun j hj => by rw [h j hj]]

theorem cmpPublicPoint_eq (ids : List ι) (X : ι → G) : cmpPublicPoint O ids x X = reconstructG O ids x X := by
  unfold cmpPublicPoint reconstructG sumG
  rw [List.foldl_map]

end

section
variable {F G : Type} [Field F] [AddCommGroup G] [Module F G] (g : G) {ι : Type} [DecidableEq ι]

/-- what the library requires of a set of participants used for interpolation (`x` is `ID.Scalar`) -/
structure Nodes (l : List ι) (x : ι → F) : Prop where
  nodup : l.Nodup
  inj : ∀ i ∈ l, ∀ j ∈ l, x i = x j → i = j
  nz : ∀ i ∈ l, x i ≠ 0

variable {l : List ι} {x : ι → F}

theorem Nodes.injOn (h : Nodes l x) : Set.InjOn x (l.toFinset : Set ι) := by
  intro i hi j hj e
  exact h.inj i (by simpa using hi) j (by simpa using hj) e

theorem Nodes.nz_toFinset (h : Nodes l x) : ∀ i ∈ l.toFinset, x i ≠ 0 := fun i hi => h.nz i (by simpa using hi)

theorem Nodes.card (h : Nodes l x) : l.toFinset.card = l.length := List.toFinset_card_of_nodup h.nodup

/-- `Nodes` can be met -/
theorem Nodes.natCast_add_one [CharZero F] {l : List ℕ} (hl : l.Nodup) : Nodes l (fun i : ℕ => (i : F) + 1) :=
  ⟨hl, fun _ _ _ _ e => Nat.cast_injective (add_right_cancel e), fun i _ => Nat.cast_add_one_ne_zero i⟩

theorem reconstructG_add (V W : ι → G) :
    reconstructG (lawful g : Ops F G) l x (fun i => V i + W i) =
      reconstructG (lawful g : Ops F G) l x V + reconstructG (lawful g : Ops F G) l x W := by
  simp only [reconstructG, alg, smul_add, List.sum_map_add]

theorem reconstructG_smul (c : F) (V : ι → G) :
    reconstructG (lawful g : Ops F G) l x (fun i => c • V i) = c • reconstructG (lawful g : Ops F G) l x V := by
  simp only [reconstructG, alg, smul_comm _ c, List.smul_sum, List.map_map, Function.comp_def]

theorem reconstructG_list_sum {κ : Type} (js : List κ) (V : κ → ι → G) :
    reconstructG (lawful g : Ops F G) l x (fun i => (js.map fun j => V j i).sum) =
      (js.map fun j => reconstructG (lawful g : Ops F G) l x (V j)).sum := by
  induction js with
  | nil => simp [reconstructG]
  | cons j js ih => simp only [List.map_cons, List.sum_cons, reconstructG_add, ih]

theorem reconstructG_lawful (hl : l.Nodup) (V : ι → G) :
    reconstructG (lawful g : Ops F G) l x V = ∑ j ∈ l.toFinset, lagCoeff l.toFinset x j • V j := by
  unfold reconstructG
  rw [sumG_lawful, ← List.sum_toFinset _ hl]
  refine Finset.sum_congr rfl fun j hj => ?_
  rw [lawful_smul, lagrangeCoeff_lawful g l hl x j (List.mem_toFinset.mp hj)]

theorem reconstructG_const (hN : Nodes l x) (hne : l ≠ []) (A : G) :
    reconstructG (lawful g : Ops F G) l x (fun _ => A) = A := by
  rw [reconstructG_lawful g hN.nodup, ← Finset.sum_smul,
    lagCoeff_sum_one _ x hN.injOn hN.nz_toFinset (List.toFinset_nonempty_iff l |>.mpr hne), one_smul]

theorem reconstruct_eq_reconstructG (v : ι → F) :
    reconstruct (lawful g : Ops F G) l x v = reconstructG (lawful (1 : F) : Ops F F) l x v := rfl

theorem reconstruct_add (v w : ι → F) :
    reconstruct (lawful g : Ops F G) l x (fun i => v i + w i) =
      reconstruct (lawful g : Ops F G) l x v + reconstruct (lawful g : Ops F G) l x w := by
  simp only [reconstruct_eq_reconstructG, reconstructG_add]

theorem reconstruct_mul_left (c : F) (v : ι → F) :
    reconstruct (lawful g : Ops F G) l x (fun i => c * v i) = c * reconstruct (lawful g : Ops F G) l x v := by
  simp only [reconstruct_eq_reconstructG]; exact reconstructG_smul 1 c v

theorem reconstruct_zero : reconstruct (lawful g : Ops F G) l x (fun _ => 0) = 0 := by
  simpa using reconstruct_mul_left g (l := l) (x := x) 0 fun _ => 0

theorem reconstruct_list_sum {κ : Type} (js : List κ) (v : κ → ι → F) :
    reconstruct (lawful g : Ops F G) l x (fun i => (js.map fun j => v j i).sum) =
      (js.map fun j => reconstruct (lawful g : Ops F G) l x (v j)).sum := by
  simp only [reconstruct_eq_reconstructG, reconstructG_list_sum]

theorem reconstruct_lawful (hl : l.Nodup) (v : ι → F) :
    reconstruct (lawful g : Ops F G) l x v = ∑ j ∈ l.toFinset, lagCoeff l.toFinset x j * v j := by
  rw [reconstruct_eq_reconstructG]; exact reconstructG_lawful 1 hl v

theorem reconstruct_const (hN : Nodes l x) (hne : l ≠ []) (a : F) :
    reconstruct (lawful g : Ops F G) l x (fun _ => a) = a := by
  rw [reconstruct_eq_reconstructG, reconstructG_const 1 hN hne]

theorem reconstructG_smul_base (v : ι → F) (P : G) :
    reconstructG (lawful g : Ops F G) l x (fun i => v i • P) = reconstruct (lawful g : Ops F G) l x v • P := by
  simp only [reconstructG, reconstruct, alg, List.sum_smul, List.map_map, Function.comp_def, mul_smul]

theorem reconstruct_eval (hN : Nodes l x) (f : F[X]) (hdeg : f.degree < l.length) :
    reconstruct (lawful g : Ops F G) l x (fun j => f.eval (x j)) = f.eval 0 := by
  rw [reconstruct_lawful g hN.nodup]
  exact lagCoeff_at_zero _ x hN.injOn hN.nz_toFinset f (by rw [hN.card]; exact hdeg)

theorem reconstruct_poly (hN : Nodes l x) (cs : List F) (hlen : cs.length ≤ l.length) :
    reconstruct (lawful g : Ops F G) l x (fun j => evalPoly (lawful g : Ops F G) cs (x j)) = cs.headD 0 := by
  simp only [horner_eq_eval]
  rw [reconstruct_eval g hN, polyOf_eval_zero]
  exact lt_of_lt_of_le (polyOf_degree_lt cs) (by exact_mod_cast hlen)

theorem reconstructG_exp (hN : Nodes l x) (e : Exponent G) (hdeg : expDegree e < (l.length : Int)) :
    reconstructG (lawful g : Ops F G) l x (fun j => evalExp (lawful g : Ops F G) e (x j)) =
      expConstant (lawful g : Ops F G) e := by
  rw [reconstructG_lawful g hN.nodup, expConstant_lawful]
  have hw := weighted_hornerG (G := G) l.toFinset (lagCoeff l.toFinset x) x
    (lagCoeff_pow l.toFinset x hN.injOn hN.nz_toFinset) e.coeffs
  unfold expDegree at hdeg
  simp only [evalExp_lawful]
  cases hb : e.isConstant <;> simp only [hb, Bool.false_eq_true, if_false, if_true] at hdeg ⊢
  · simpa only [pow_zero, one_smul] using hw 0 (by rw [hN.card]; omega)
  · simpa only [pow_one] using hw 1 (by rw [hN.card]; omega)

@[alg] theorem finalShare_lawful (prev : F) (rs : List F) : finalShare (lawful g : Ops F G) prev rs = prev + rs.sum := by
  unfold finalShare; exact foldl_add_eq rs prev

omit [DecidableEq ι] in
@[alg] theorem dealtShare_lawful (dealers : List ι) (cs : ι → List F) (x : ι → F) (prev : F) (i : ι) :
    dealtShare (lawful g : Ops F G) dealers cs x prev i =
      prev + (dealers.map fun j => evalPoly (lawful g : Ops F G) (cs j) (x i)).sum := by
  unfold dealtShare dealShare; rw [finalShare_lawful]

@[alg] theorem frostGroupKey_lawful (prev : G) (phis : List (Exponent G)) :
    frostGroupKey (lawful g : Ops F G) prev phis = prev + (phis.map fun e => expConstant (lawful g : Ops F G) e).sum := by
  unfold frostGroupKey
  rw [← foldl_add_eq, List.foldl_map]
  rfl

@[alg] theorem deriveSharePath_lawful (s : F) (path : List F) :
    deriveSharePath (lawful g : Ops F G) s path = s + path.sum := by
  unfold deriveSharePath deriveShare; exact foldl_add_eq path s

@[alg] theorem derivePublicPath_lawful (P : G) (path : List F) :
    derivePublicPath (lawful g : Ops F G) P path = P + path.sum • g := by
  unfold derivePublicPath derivePublic
  rw [List.sum_smul, ← foldl_add_eq, List.foldl_map]
  rfl

theorem doernerDerivePath_lawful (cR cS : DoernerCfg F G) (path : List (F × List UInt8)) :
    doernerDerivePath (lawful g : Ops F G) cR cS path =
      (⟨cR.secretShare + (path.map Prod.fst).sum, cR.pub + (path.map Prod.fst).sum • g,
          match path.getLast? with | some step => some step.2 | none => cR.chainKey⟩,
       ⟨cS.secretShare, cS.pub + (path.map Prod.fst).sum • g,
          match path.getLast? with | some step => some step.2 | none => cS.chainKey⟩) := by
  induction path using List.reverseRecOn with
  | nil => simp [doernerDerivePath]
  | append_singleton path step ih =>
    unfold doernerDerivePath at ih ⊢
    rw [List.foldl_append, ih]
    simp [alg, add_assoc, add_smul]

/-! ### the conditional negation of FROST-Taproot is a multiplication by ±1, so it commutes with whatever is linear -/

def sgn (even : Bool) : F := if even then 1 else -1

@[alg] theorem tapScalar_lawful (even : Bool) (s : F) : tapScalar (lawful g : Ops F G) even s = sgn even * s := by
  cases even <;> simp [tapScalar, sgn]

@[alg] theorem tapPoint_lawful (even : Bool) (P : G) : tapPoint (lawful g : Ops F G) even P = (sgn even : F) • P := by
  cases even <;> simp [tapPoint, sgn]

theorem tapPoint_actBase (even : Bool) (s : F) :
    tapPoint (lawful g : Ops F G) even (actBase (lawful g : Ops F G) s) =
      actBase (lawful g : Ops F G) (tapScalar (lawful g : Ops F G) even s) := by
  simp only [alg, mul_smul]

theorem reconstruct_tapScalar (sh : ι → F) (even : Bool) :
    reconstruct (lawful g : Ops F G) l x (fun i => tapScalar (lawful g : Ops F G) even (sh i)) =
      tapScalar (lawful g : Ops F G) even (reconstruct (lawful g : Ops F G) l x sh) := by
  simp only [tapScalar_lawful, reconstruct_mul_left]

theorem tapPoint_negInvariant {X : Type} (xc : G → X) (hxc : ∀ P : G, xc (-P) = xc P) (even : Bool) (P : G) :
    xc (tapPoint (lawful g : Ops F G) even P) = xc P := by
  cases even <;> simp [tapPoint, hxc]

end

section
variable {F G : Type} [Field F] [AddCommGroup G] [Module F G] (g : G) {ι : Type}

structure RefreshOp (ι F : Type) where
  dealers : List ι
  cs : ι → List F

/-- refresh polynomials whose commitments pass the checks of cmp keygen round 3 / frost keygen round 2 (identity
    constant, degree t) have constant coefficient zero and t+1 coefficients; `Valid` asks for at most t+1 -/
def RefreshOp.Valid (t : ℕ) (op : RefreshOp ι F) : Prop :=
  ∀ j ∈ op.dealers, (op.cs j).headD 0 = 0 ∧ (op.cs j).length ≤ t + 1

def applyRefresh (x : ι → F) (sh : ι → F) (op : RefreshOp ι F) : ι → F :=
  fun i => dealtShare (lawful g : Ops F G) op.dealers op.cs x (sh i) i

def refreshDelta (x : ι → F) (op : RefreshOp ι F) (i : ι) : F :=
  (op.dealers.map fun j => evalPoly (lawful g : Ops F G) (op.cs j) (x i)).sum

theorem applyRefresh_eq (x : ι → F) (sh : ι → F) (op : RefreshOp ι F) (i : ι) :
    applyRefresh g x sh op i = sh i + refreshDelta g x op i := by
  unfold applyRefresh refreshDelta; rw [dealtShare_lawful]

end

theorem ridXor_right_comm (z x y : Bytes) : ridXor (ridXor z x) y = ridXor (ridXor z y) x := by
  unfold ridXor
  induction z generalizing x y with
  | nil => simp
  | cons a z ih =>
    cases x with
    | nil => cases y <;> simp
    | cons b x =>
      cases y with
      | nil => simp
      | cons c y =>
        simp only [List.zipWith_cons_cons, List.cons.injEq]
        exact ⟨by rw [UInt8.xor_assoc, UInt8.xor_comm b c, ← UInt8.xor_assoc], ih x y⟩

theorem chainKeyOf_perm (cs ds : List Bytes) (h : cs.Perm ds) : chainKeyOf cs = chainKeyOf ds := by
  unfold chainKeyOf
  exact List.Perm.foldl_eq' h (fun x _ y _ z => ridXor_right_comm z x y) _

theorem chainKeyOf_length (cs : List Bytes) (h : ∀ c ∈ cs, c.length = 32) : (chainKeyOf cs).length = 32 :=
  List.foldlRecOn (motive := fun b : Bytes => b.length = 32) cs ridXor (by simp)
    fun acc ha c hc => by simp [ridXor, ha, h c hc]

end Mps.Alg
