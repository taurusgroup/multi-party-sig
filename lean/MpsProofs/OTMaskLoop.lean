import Mps.OT.Multiply
/-
  The masking loops of `AdditiveOTReceiver.Round2` (core-only).
  * `maskLoopCoded` (additive.go; bound = length of pad `i`): in range for every batch size and pad length;
  * `maskLoopCodedOld` (additive.go before /repo commit eab5a8f; bound = length of pad `j`, the byte
    counter): on an honest message in range exactly when the batch has at least 33 pads.
-/
namespace Mps.OT

theorem maskLoopCoded_of_le (lens : List Nat) (i : Nat) (hi : i < lens.length) (fuel j : Nat)
    (hj : j ≤ lens[i]) (hf : lens[i] ≤ fuel + j) :
    maskLoopCoded lens i fuel j = some lens[i] := by
  induction fuel generalizing j with
  | zero => rw [maskLoopCoded, show j = lens[i] by omega]
  | succ fuel ih =>
    simp only [maskLoopCoded, List.getElem?_eq_getElem hi]
    split
    · exact ih (j + 1) (by omega) (by omega)
    · rw [show j = lens[i] by omega]

/-- the bound `len(CombinedPads[j])` exists only while `j < n`, and the loop reads it up to `j = L` -/
theorem maskLoopOld_replicate (L n i : Nat) (hi : i < n) (fuel j : Nat) (hj : j ≤ L)
    (hf : L + 1 ≤ fuel + j) :
    maskLoopCodedOld (List.replicate n L) i fuel j = if L + 1 ≤ n then some L else none := by
  induction fuel generalizing j with
  | zero => omega
  | succ fuel ih =>
    simp only [maskLoopCodedOld, List.getElem?_replicate, hi, if_true]
    by_cases h1 : j < n
    · simp only [h1, if_true]
      split
      · exact ih (j + 1) (by omega) (by omega)
      · rw [show j = L by omega, if_pos (by omega)]
    · simp only [h1, if_false]
      rw [if_neg (by omega)]

/-- honest pads have 32 bytes -/
theorem additive_mask_loop_range_old (n i : Nat) (hi : i < n) :
    maskLoopCodedOld (List.replicate n 32) i 64 0 = if 33 ≤ n then some 32 else none :=
  maskLoopOld_replicate 32 n i hi 64 0 (by omega) (by omega)

/-- one pad shortened to 31 bytes: the bound of `maskLoopCodedOld` still comes from the other pads, so byte 31
    of the short pad is indexed -/
theorem additive_mask_loop_truncated_old :
    maskLoopCodedOld ((List.replicate 672 32).set 5 31) 5 64 0 = none ∧
    maskLoopCoded ((List.replicate 672 32).set 5 31) 5 64 0 = some 31 := by decide

end Mps.OT
