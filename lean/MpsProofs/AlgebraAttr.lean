import Mathlib.Tactic.Attr.Register
/-- `simp only [alg]` turns a statement about the transcription (`Mps/Algebra.lean`) at `Mps.Alg.lawful g` into the
    equation over the field and the module it stands for: the projections of `lawful g`, the one-line definitions,
    and the closed forms (`*_lawful`) of those that fold over a list or branch on a flag. -/
register_simp_attr alg
