import MpsProofs.Frame
import Mps.Commit
/-
  Reading item lists: an item that is written only when its value is present can be read off the front of a
  list. Core-only.
-/
namespace Mps

theorem d_id : str "ID" = [73, 68] := by decide

/-- an item written only when its value is present (`WriteAny` refuses nil) -/
def optItem (d : Bytes) : Option Bytes → List Item
  | none => []
  | some x => [⟨d, x⟩]

theorem optItem_inj {d : Bytes} {o o' : Option Bytes} (h : optItem d o = optItem d o') : o = o' := by
  cases o <;> cases o' <;> simp_all [optItem]

theorem optItem_append_inj {d e : Bytes} (hde : e ≠ d) {o o' : Option Bytes} {x x' : Bytes} {r r' : List Item}
    (h : optItem d o ++ ⟨e, x⟩ :: r = optItem d o' ++ ⟨e, x'⟩ :: r') : o = o' ∧ x = x' ∧ r = r' := by
  cases o <;> cases o' <;>
    simp only [optItem, List.nil_append, List.cons_append, List.cons.injEq, Item.mk.injEq] at h
  · exact ⟨rfl, h.1.2, h.2⟩
  · exact absurd h.1.1 hde
  · exact absurd h.1.1.symm hde
  · exact ⟨congrArg some h.1.2, h.2.1.2, h.2.2⟩

/-- a byte string written only when it is not empty (the empty party id is refused) -/
def neOpt (b : Bytes) : Option Bytes := if b = [] then none else some b

theorem optItem_neOpt (d b : Bytes) : optItem d (neOpt b) = if b = [] then [] else [⟨d, b⟩] := by
  unfold neOpt; split <;> rfl

theorem neOpt_inj {a b : Bytes} (h : neOpt a = neOpt b) : a = b := by
  unfold neOpt at h
  split at h <;> split at h <;> simp_all

end Mps
