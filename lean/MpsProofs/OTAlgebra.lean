import Mathlib.Algebra.BigOperators.Intervals
import Mathlib.Algebra.BigOperators.Ring.Finset
import Mathlib.Tactic.Ring
import Mathlib.Tactic.LinearCombination
import Mps.OT.Multiply
import MpsProofs.OTBits
import MpsProofs.OTExtend
/-
  additive.go / multiply.go, the algebra of C13 over an arbitrary commutative ring: the additive-OT sums, the
  gadget encoding, the shares of the multiplication sum to α·β and its checks pass; over a domain, the
  single-alteration analysis of the sender's message.
-/
namespace Mps.OT
open Finset

variable {F : Type}

/-- `repr` is the marshalling representative (`ZMod.val` for the real scalar field) -/
def lawful (F : Type) [CommRing F] [DecidableEq F] (repr : F → Nat) : FieldOps F where
  zero := 0
  one := 1
  add := (· + ·)
  sub := (· - ·)
  neg := Neg.neg
  mul := (· * ·)
  eq a b := decide (a = b)
  repr := repr
  ofNat := Nat.cast

section ring
variable [CommRing F] [DecidableEq F] (repr : F → Nat)

@[simp] theorem lawful_zero : (lawful F repr).zero = 0 := rfl
@[simp] theorem lawful_one : (lawful F repr).one = 1 := rfl
@[simp] theorem lawful_add (a b : F) : (lawful F repr).add a b = a + b := rfl
@[simp] theorem lawful_sub (a b : F) : (lawful F repr).sub a b = a - b := rfl
@[simp] theorem lawful_neg (a : F) : (lawful F repr).neg a = -a := rfl
@[simp] theorem lawful_mul (a b : F) : (lawful F repr).mul a b = a * b := rfl
@[simp] theorem lawful_eq (a b : F) : (lawful F repr).eq a b = decide (a = b) := rfl
@[simp] theorem lawful_repr (a : F) : (lawful F repr).repr a = repr a := rfl
@[simp] theorem lawful_ofBit (b : Bool) : (lawful F repr).ofBit b = if b then 1 else 0 := rfl

/-- no length hypothesis: `dotFrom` stops at the shorter list, and `getD` reads `0` past the end -/
theorem dotFrom_eq_sum (acc : F) (as bs : List F) :
    (lawful F repr).dotFrom acc as bs = acc + ∑ i ∈ range as.length, as.getD i 0 * bs.getD i 0 := by
  induction as generalizing acc bs with
  | nil => cases bs <;> simp [FieldOps.dotFrom]
  | cons a as ih =>
    cases bs with
    | nil => simp [FieldOps.dotFrom]
    | cons b bs =>
      rw [FieldOps.dotFrom, ih, List.length_cons, sum_range_succ']
      simp only [List.getD_cons_succ, List.getD_cons_zero, lawful_add, lawful_mul]
      ring

theorem dot_eq_sum (as bs : List F) :
    (lawful F repr).dot as bs = ∑ i ∈ range as.length, as.getD i 0 * bs.getD i 0 := by
  rw [FieldOps.dot, dotFrom_eq_sum, lawful_zero, zero_add]

omit [DecidableEq F] in
theorem getD_map_fst (l : List (F × F)) (i : Nat) : (l.map (·.1)).getD i 0 = (l.getD i (0, 0)).1 :=
  getD_map (·.1) l i (0, 0)

/-- `hvc` is what `ext_ot_choice` establishes -/
theorem additive_sum (h : OTHash F) (V0 V1 VC : List Nat) (l : Nat) (choices : Nat) (alpha : F × F)
    (hvc : ∀ i, i < l → VC.getD i 0 = if choices.testBit i then V1.getD i 0 else V0.getD i 0)
    (i : Nat) (hi : i < l) :
    let sr := additiveSend (lawful F repr) h V0 V1 l alpha
    let recv := additiveRecv (lawful F repr) h VC l choices sr.1
    (recv.getD i (0, 0)).1 + (sr.2.getD i (0, 0)).1 = (if choices.testBit i then alpha.1 else 0) ∧
    (recv.getD i (0, 0)).2 + (sr.2.getD i (0, 0)).2 = (if choices.testBit i then alpha.2 else 0) := by
  simp only [additiveSend, additiveRecv, getD_map_range _ _ _ _ hi, hvc i hi, bitAt, lawful_add,
    lawful_sub, lawful_neg, lawful_zero]
  cases choices.testBit i <;> (simp only [↓reduceIte, Bool.false_eq_true]; constructor <;> ring)

theorem additiveSend_length (h : OTHash F) (V0 V1 : List Nat) (l : Nat) (alpha : F × F) :
    (additiveSend (lawful F repr) h V0 V1 l alpha).1.length = l ∧
    (additiveSend (lawful F repr) h V0 V1 l alpha).2.length = l := by
  simp [additiveSend]

theorem additiveRecv_length (h : OTHash F) (VC : List Nat) (l choices : Nat) (combined : List (F × F)) :
    (additiveRecv (lawful F repr) h VC l choices combined).length = l := by
  simp [additiveRecv]

theorem pow2_eq (k : Nat) : pow2 (lawful F repr) k = (2 : F) ^ k := by
  induction k with
  | zero => simp [pow2]
  | succ k ih => simp only [pow2, lawful_add, ih]; ring

theorem encodeAcc_eq (beta : F) (noise : List F) (gamma : Nat) :
    encodeAcc (lawful F repr) beta noise gamma =
      beta - ∑ i ∈ range noise.length, (if gamma.testBit i then 1 else 0) * noise.getD i 0 := by
  have := forRange_sum id (fun acc i => acc - (if gamma.testBit i then 1 else 0) * noise.getD i 0) _
    (fun acc i => sub_eq_add_neg ..) beta noise.length
  rwa [sum_neg_distrib, ← sub_eq_add_neg] at this

omit [DecidableEq F] in
theorem sum_bits (v n : Nat) :
    (∑ k ∈ range n, (if v.testBit k then (1 : F) else 0) * (2 : F) ^ k) = ((v % 2 ^ n : Nat) : F) := by
  induction n with
  | zero => simp [Nat.mod_one]
  | succ n ih =>
    rw [sum_range_succ, ih]
    have h : v % 2 ^ (n + 1) = v % 2 ^ n + 2 ^ n * (v.testBit n).toNat := by
      rw [Nat.toNat_testBit, Nat.pow_succ, Nat.mod_mul]
    rw [h]
    cases v.testBit n <;> simp

theorem gadgetExp_lt (idx : Nat) : gadgetExp idx < 256 := by
  unfold gadgetExp; omega

theorem gadgetExp_gadgetExp {idx : Nat} (h : idx < 256) : gadgetExp (gadgetExp idx) = idx := by
  unfold gadgetExp
  have hb : idx % 8 < 8 := Nat.mod_lt _ (by decide)
  rw [Nat.mul_add_div (by decide), Nat.mul_add_mod, Nat.div_eq_of_lt hb, Nat.mod_eq_of_lt hb, Nat.add_zero,
    Nat.sub_sub_self (by omega), Nat.div_add_mod]

theorem scalarChoiceBits_testBit (v idx : Nat) (h : idx < 256) :
    (scalarChoiceBits v).testBit idx = v.testBit (gadgetExp idx) := by
  have hj : idx % 8 < 8 := Nat.mod_lt _ (by decide)
  conv_lhs => rw [← Nat.div_add_mod idx 8]
  rw [scalarChoiceBits, gadgetExp, leNat_testBit _ _ _ hj, beN_getD 32 v _ (by omega),
    Nat.testBit_mod_two_pow, Nat.testBit_div_two_pow]
  simp [hj, Nat.add_comm]

theorem scalarChoiceBits_lt (v : Nat) : scalarChoiceBits v < 2 ^ 256 := by
  have := leNat_lt (beN 32 v)
  rwa [beN_length] at this

omit [DecidableEq F] in
theorem sum_gadget_pow (v : Nat) (hv : v < 2 ^ 256) :
    (∑ idx ∈ range 256, (if (scalarChoiceBits v).testBit idx then (1 : F) else 0) * (2 : F) ^ gadgetExp idx)
      = (v : F) := by
  refine Eq.trans ?_ ((sum_bits v 256).trans (by rw [Nat.mod_eq_of_lt hv]))
  refine sum_nbij' gadgetExp gadgetExp ?_ ?_ ?_ ?_ ?_ <;> simp only [mem_range]
  · exact fun idx _ => gadgetExp_lt idx
  · exact fun idx _ => gadgetExp_lt idx
  · exact fun _ => gadgetExp_gadgetExp
  · exact fun _ => gadgetExp_gadgetExp
  · exact fun idx h => by rw [scalarChoiceBits_testBit v idx h]

/-- what is required of the marshalling representative; true of `ZMod.val` for a 256-bit modulus -/
structure ReprOK (repr : F → Nat) : Prop where
  cast : ∀ x : F, ((repr x : Nat) : F) = x
  lt : ∀ x : F, repr x < 2 ^ 256

theorem encode_testBit_low (beta : F) (noise : List F) (gamma : Nat) (idx : Nat) (h : idx < 256) :
    (encode (lawful F repr) beta noise gamma).testBit idx
      = (scalarChoiceBits (repr (encodeAcc (lawful F repr) beta noise gamma))).testBit idx :=
  testBit_or_shiftLeft_lt _ _ h

theorem encode_testBit_high (beta : F) (noise : List F) (gamma : Nat) (k : Nat) (h : k < noise.length) :
    (encode (lawful F repr) beta noise gamma).testBit (256 + k) = gamma.testBit k := by
  rw [encode, scalarBits, testBit_or_shiftLeft_add (scalarChoiceBits_lt _), Nat.testBit_mod_two_pow,
    decide_eq_true h, Bool.true_and]

theorem makeGadget_getD_low (h : OTHash F) (idx : Nat) (hi : idx < 256) :
    (makeGadget (lawful F repr) h).getD idx 0 = (2 : F) ^ gadgetExp idx := by
  unfold makeGadget scalarBits
  rw [List.getD_eq_getElem?_getD, List.getElem?_append_left (by simpa using hi)]
  simp [hi, pow2_eq]

theorem makeGadget_getD_high (h : OTHash F) (k : Nat) :
    (makeGadget (lawful F repr) h).getD (256 + k) 0 = (h.noise noiseLen).getD k 0 := by
  unfold makeGadget scalarBits
  rw [List.getD_eq_getElem?_getD, List.getElem?_append_right (by simp)]
  simp [List.getD_eq_getElem?_getD]

theorem makeGadget_length (h : OTHash F) (hn : (h.noise noiseLen).length = noiseLen) :
    (makeGadget (lawful F repr) h).length = gadgetLen := by
  simp [makeGadget, hn, gadgetLen]

theorem makeGadget_drop (h : OTHash F) :
    (makeGadget (lawful F repr) h).drop scalarBits = h.noise noiseLen := by
  simp [makeGadget]

theorem gadget_encode_sum (hr : ReprOK repr) (h : OTHash F) (hn : (h.noise noiseLen).length = noiseLen)
    (beta : F) (gamma : Nat) :
    let gadget := makeGadget (lawful F repr) h
    let choices := encode (lawful F repr) beta (gadget.drop scalarBits) gamma
    (∑ i ∈ range gadgetLen, (if choices.testBit i then (1 : F) else 0) * gadget.getD i 0) = beta := by
  intro gadget choices
  have hc : choices = encode (lawful F repr) beta (h.noise noiseLen) gamma :=
    congrArg (encode (lawful F repr) beta · gamma) (makeGadget_drop repr h)
  -- the 256 marshalled bits against the powers of two give `encodeAcc`; the rest is γ against the noise
  rw [show gadgetLen = 256 + noiseLen from rfl, sum_range_add,
    sum_congr rfl fun x hx => by
      rw [hc, encode_testBit_low repr _ _ _ _ (mem_range.mp hx), makeGadget_getD_low repr h x (mem_range.mp hx)],
    sum_gadget_pow _ (hr.lt _), hr.cast,
    sum_congr rfl fun x hx => by
      rw [hc, encode_testBit_high repr _ _ _ _ (by rw [hn]; exact mem_range.mp hx), makeGadget_getD_high repr h x],
    encodeAcc_eq, hn, sub_add_cancel]

theorem mulSendFinish_eq (chi alpha : F × F) (gadget : List F) (result : List (F × F)) :
    mulSendFinish (lawful F repr) chi gadget alpha result =
      (result.map fun r => r.1 * chi.1 + r.2 * chi.2, alpha.1 * chi.1 + alpha.2 * chi.2,
       (lawful F repr).dot (result.map (·.1)) gadget) := by
  simp [mulSendFinish]

theorem mulCheckAt_iff (chi : F × F) (choices : Nat) (rCheck : List F) (uCheck : F) (i : Nat) (r : F × F) :
    mulCheckAt (lawful F repr) chi choices rCheck uCheck i r = true ↔
      r.1 * chi.1 + r.2 * chi.2 = (if choices.testBit i then 1 else 0) * uCheck - rCheck.getD i 0 := by
  simp [mulCheckAt, bitAt]

/-- the share never depends on `rCheck`, `uCheck` or the second components -/
theorem mulRecvFinish_eq_some_iff (chi : F × F) (gadget : List F) (choices : Nat) (rCheck : List F) (uCheck : F)
    (result : List (F × F)) (share : F) :
    mulRecvFinish (lawful F repr) chi gadget choices rCheck uCheck result = some share ↔
      (∀ i, i < result.length →
        (result.getD i (0, 0)).1 * chi.1 + (result.getD i (0, 0)).2 * chi.2
          = (if choices.testBit i then 1 else 0) * uCheck - rCheck.getD i 0) ∧
      share = ∑ i ∈ range result.length, (result.getD i (0, 0)).1 * gadget.getD i 0 := by
  unfold mulRecvFinish
  simp only [List.all_eq_true, List.mem_range, mulCheckAt_iff, lawful_zero, dot_eq_sum, List.length_map,
    getD_map_fst]
  split
  · next hc => exact ⟨fun e => ⟨hc, (Option.some.inj e).symm⟩, fun e => congrArg some e.2.symm⟩
  · next hc => exact ⟨fun e => (nomatch e), fun e => absurd e.1 hc⟩

/-- `hadd` is the conclusion of `additive_sum` -/
theorem mul_finish_correct (chi alpha : F × F) (gadget : List F) (choices : Nat) (send recv : List (F × F))
    (hs : send.length = gadget.length) (hr : recv.length = gadget.length)
    (hadd : ∀ i, i < gadget.length →
      (recv.getD i (0, 0)).1 + (send.getD i (0, 0)).1 = (if choices.testBit i then alpha.1 else 0) ∧
      (recv.getD i (0, 0)).2 + (send.getD i (0, 0)).2 = (if choices.testBit i then alpha.2 else 0)) :
    let out := mulSendFinish (lawful F repr) chi gadget alpha send
    ∃ shareR, mulRecvFinish (lawful F repr) chi gadget choices out.1 out.2.1 recv = some shareR ∧
      out.2.2 + shareR
        = alpha.1 * ∑ i ∈ range gadget.length, (if choices.testBit i then (1 : F) else 0) * gadget.getD i 0 := by
  rw [mulSendFinish_eq]
  refine ⟨_, (mulRecvFinish_eq_some_iff repr ..).mpr ⟨fun i hi => ?_, rfl⟩, ?_⟩
  · obtain ⟨a1, a2⟩ := hadd i (hr ▸ hi)
    -- `(if c then 1 else 0)` becomes an atom for `ring`
    rw [← boole_mul] at a1 a2
    have := getD_map (fun r : F × F => r.1 * chi.1 + r.2 * chi.2) send i (0, 0)
    simp only [zero_mul, add_zero] at this
    rw [this]
    linear_combination chi.1 * a1 + chi.2 * a2
  · simp only [dot_eq_sum, List.length_map, hs, hr, ← sum_add_distrib, mul_sum, getD_map_fst]
    refine sum_congr rfl fun i hi => ?_
    have a1 := (hadd i (mem_range.mp hi)).1
    rw [← boole_mul] at a1
    linear_combination gadget.getD i 0 * a1

/-- the receiver's second round after the shape checks -/
def recvCore (h : OTHash F) (VC : List Nat) (gadget : List F) (choices : Nat) (chi : F × F)
    (m : MulSendMsg F) : Option F :=
  mulRecvFinish (lawful F repr) chi gadget choices m.rCheck m.uCheck
    (additiveRecv (lawful F repr) h VC gadget.length choices m.combined)

/-- `mulReceiverRound2` on the (unmarshalled) sender message `m` -/
def recvRound2 (h : OTHash F) (VC : List Nat) (gadget : List F) (choices : Nat) (chi : F × F)
    (m : MulSendMsg F) : Option F :=
  if m.rCheck.length ≠ gadget.length then none
  else if m.combined.length ≠ gadget.length then none
  else recvCore repr h VC gadget choices chi m

def honestMsg (h : OTHash F) (V0 V1 : List Nat) (gadget : List F) (alpha chi : F × F) : MulSendMsg F :=
  { combined := (additiveSend (lawful F repr) h V0 V1 gadget.length alpha).1
    rCheck := (mulSendFinish (lawful F repr) chi gadget alpha
      (additiveSend (lawful F repr) h V0 V1 gadget.length alpha).2).1
    uCheck := (mulSendFinish (lawful F repr) chi gadget alpha
      (additiveSend (lawful F repr) h V0 V1 gadget.length alpha).2).2.1 }

theorem mulReceiverRound2_eq (h : OTHash F) (choices : Nat) (U VC : List Nat) (m : MulSendMsg F) :
    mulReceiverRound2 (lawful F repr) h choices U VC m
      = recvRound2 repr h VC (makeGadget (lawful F repr) h) choices (h.mchi U) m := rfl

theorem recvRound2_of_len (h : OTHash F) (VC : List Nat) (gadget : List F) (choices : Nat) (chi : F × F)
    (m : MulSendMsg F) (hc : m.combined.length = gadget.length) (hr : m.rCheck.length = gadget.length) :
    recvRound2 repr h VC gadget choices chi m = recvCore repr h VC gadget choices chi m := by
  unfold recvRound2
  rw [if_neg (by simp [hr]), if_neg (by simp [hc])]

theorem honestMsg_lengths (h : OTHash F) (V0 V1 : List Nat) (gadget : List F) (alpha chi : F × F) :
    (honestMsg repr h V0 V1 gadget alpha chi).combined.length = gadget.length ∧
    (honestMsg repr h V0 V1 gadget alpha chi).rCheck.length = gadget.length := by
  simp [honestMsg, mulSendFinish_eq, additiveSend_length]

theorem mulSenderRound1_of_extSend (h : OTHash F) (ss : CorreSendSetup) (alpha : F × F) (msg : ExtMsg)
    (V : List Nat × List Nat) (hV : extSend h ss (makeGadget (lawful F repr) h).length msg = some V) :
    mulSenderRound1 (lawful F repr) h ss alpha msg
      = some (honestMsg repr h V.1 V.2 (makeGadget (lawful F repr) h) alpha (h.mchi msg.U),
          (mulSendFinish (lawful F repr) (h.mchi msg.U) (makeGadget (lawful F repr) h) alpha
            (additiveSend (lawful F repr) h V.1 V.2 (makeGadget (lawful F repr) h).length alpha).2).2.2) := by
  simp only [mulSenderRound1, hV, honestMsg]

theorem recvRound2_honest (h : OTHash F) (V0 V1 VC : List Nat) (gadget : List F) (choices : Nat)
    (alpha chi : F × F)
    (hvc : ∀ i, i < gadget.length → VC.getD i 0 = if choices.testBit i then V1.getD i 0 else V0.getD i 0) :
    ∃ shareR, recvRound2 repr h VC gadget choices chi (honestMsg repr h V0 V1 gadget alpha chi) = some shareR ∧
      (mulSendFinish (lawful F repr) chi gadget alpha
          (additiveSend (lawful F repr) h V0 V1 gadget.length alpha).2).2.2 + shareR
        = alpha.1 * ∑ i ∈ range gadget.length, (if choices.testBit i then (1 : F) else 0) * gadget.getD i 0 := by
  obtain ⟨hc, hr⟩ := honestMsg_lengths repr h V0 V1 gadget alpha chi
  rw [recvRound2_of_len repr h VC gadget choices chi _ hc hr]
  exact mul_finish_correct repr chi alpha gadget choices _ _ (additiveSend_length repr ..).2
    (additiveRecv_length repr ..) (additive_sum repr h V0 V1 VC gadget.length choices alpha hvc)

/-- for ANY choice vector `c` of the receiver; `encode` then picks `c` with Σᵢ cᵢ·gᵢ = β -/
theorem multiply_of_choices (h : OTHash F) (hchi : ChiOK h) (ss : CorreSendSetup) (rs : CorreRecvSetup)
    (hrel : SetupRel ss rs) (alpha : F × F) (choices extra : Nat) :
    let g := makeGadget (lawful F repr) h
    let r := extReceive h rs g.length choices extra
    ∃ m shareS shareR, mulSenderRound1 (lawful F repr) h ss alpha r.1 = some (m, shareS) ∧
      mulReceiverRound2 (lawful F repr) h choices r.1.U r.2 m = some shareR ∧
      shareS + shareR = alpha.1 * ∑ i ∈ range g.length, (if choices.testBit i then (1 : F) else 0) * g.getD i 0 := by
  intro g r
  obtain ⟨shareR, hR, hsum⟩ := recvRound2_honest repr h _ _ r.2 g choices alpha (h.mchi r.1.U)
    (ext_ot_choice h ss rs hrel g.length choices extra)
  exact ⟨_, _, shareR, mulSenderRound1_of_extSend repr h ss alpha r.1 _
    (kos_check_complete h hchi ss rs hrel g.length choices extra), hR, hsum⟩

theorem multiply_correct_of_setup (hr : ReprOK repr) (h : OTHash F) (hchi : ChiOK h)
    (hn : (h.noise noiseLen).length = noiseLen) (ss : CorreSendSetup) (rs : CorreRecvSetup)
    (hrel : SetupRel ss rs) (alpha alpha1 beta : F) (gamma extra : Nat) :
    ∃ shareS shareR, multiplyRun (lawful F repr) h ss rs alpha alpha1 beta gamma extra = some (shareS, shareR) ∧
      shareS + shareR = alpha * beta := by
  obtain ⟨m, shareS, shareR, hS, hR, hsum⟩ := multiply_of_choices repr h hchi ss rs hrel (alpha, alpha1)
    (encode (lawful F repr) beta ((makeGadget (lawful F repr) h).drop scalarBits) gamma) extra
  refine ⟨shareS, shareR, ?_, hsum.trans ?_⟩
  · simp only [multiplyRun, mulReceiverRound1, hS, hR]
  · rw [makeGadget_length repr h hn]
    exact congrArg _ (gadget_encode_sum repr hr h hn beta gamma)

/-- `m'` differs from `m` in at most one field (an index past the end changes nothing) -/
inductive FieldAlt (m m' : MulSendMsg F) : Prop
  | comb0 (i : Nat) (x : F)
      (h : m' = { m with combined := m.combined.set i (x, (m.combined.getD i (0, 0)).2) })
  | comb1 (i : Nat) (x : F)
      (h : m' = { m with combined := m.combined.set i ((m.combined.getD i (0, 0)).1, x) })
  | rcheck (i : Nat) (x : F) (h : m' = { m with rCheck := m.rCheck.set i x })
  | ucheck (x : F) (h : m' = { m with uCheck := x })

inductive SingleAlt (m m' : MulSendMsg F) : Prop
  | field (h : FieldAlt m m')
  | combLen (l' : List (F × F)) (hl : l'.length ≠ m.combined.length) (h : m' = { m with combined := l' })
  | rcLen (l' : List F) (hl : l'.length ≠ m.rCheck.length) (h : m' = { m with rCheck := l' })

-- the section's `[DecidableEq F]` is an argument of this theorem, and nothing in it needs one
set_option linter.unusedSectionVars false in
theorem FieldAlt.lengths {m m' : MulSendMsg F} (h : FieldAlt m m') :
    m'.combined.length = m.combined.length ∧ m'.rCheck.length = m.rCheck.length := by
  cases h <;> (rename_i hm; subst hm; simp)

def recvAt (h : OTHash F) (VC : List Nat) (choices : Nat) (combined : List (F × F)) (i : Nat) : F × F :=
  ((-(h.sc2 (VC.getD i 0)).1) + (if bitAt i choices then (combined.getD i (0, 0)).1 else 0),
   (-(h.sc2 (VC.getD i 0)).2) + (if bitAt i choices then (combined.getD i (0, 0)).2 else 0))

theorem additiveRecv_getD (h : OTHash F) (VC : List Nat) (l choices : Nat) (combined : List (F × F))
    (i : Nat) (hi : i < l) :
    (additiveRecv (lawful F repr) h VC l choices combined).getD i (0, 0) = recvAt h VC choices combined i :=
  getD_map_range _ _ _ _ hi

/-- The check at an index is affine in the first component of the receiver's result there, with slope χ₀,
    and the share reads only the first components. So with `· * χ₀` injective a run that at every index
    differs from a passing one in the first component only, or not in the first component, fails its check
    or returns the same share. (Not so with zero divisors: over `ZMod 4` with χ₀ = 2 a pad changed by 2
    passes the check and moves the share.) -/
theorem mulRecvFinish_alt (chi : F × F) (hreg : Function.Injective fun d => d * chi.1) (gadget : List F)
    (choices : Nat) (rc rc' : List F) (u u' : F) (res res' : List (F × F)) (hl : res'.length = res.length)
    (H : ∀ j, j < res.length → (res'.getD j (0, 0)).1 = (res.getD j (0, 0)).1 ∨
      ((res'.getD j (0, 0)).2 = (res.getD j (0, 0)).2 ∧ rc'.getD j 0 = rc.getD j 0 ∧ u' = u))
    (share : F) (hon : mulRecvFinish (lawful F repr) chi gadget choices rc u res = some share) :
    mulRecvFinish (lawful F repr) chi gadget choices rc' u' res' = none ∨
    mulRecvFinish (lawful F repr) chi gadget choices rc' u' res' = some share := by
  obtain ⟨hchk, hshare⟩ := (mulRecvFinish_eq_some_iff repr ..).mp hon
  rcases hopt : mulRecvFinish (lawful F repr) chi gadget choices rc' u' res' with _ | share'
  · exact Or.inl rfl
  · obtain ⟨hchk', hshare'⟩ := (mulRecvFinish_eq_some_iff repr ..).mp hopt
    right
    rw [hshare, hshare', hl]
    refine congrArg some (sum_congr rfl fun j hj => ?_)
    have hj := mem_range.mp hj
    rcases H j hj with e | ⟨e2, erc, eu⟩
    · rw [e]
    · have c' := hchk' j (hl ▸ hj)
      rw [e2, erc, eu, ← hchk j hj] at c'
      rw [hreg (add_right_cancel c')]

end ring

section domain
variable [CommRing F] [IsDomain F] [DecidableEq F] (repr : F → Nat)

theorem recvCore_fieldAlt (h : OTHash F) (VC : List Nat) (gadget : List F) (choices : Nat) (chi : F × F)
    (hchi0 : chi.1 ≠ 0) (m m' : MulSendMsg F) (shareR : F)
    (hon : recvCore repr h VC gadget choices chi m = some shareR) (halt : FieldAlt m m') :
    recvCore repr h VC gadget choices chi m' = none ∨
    recvCore repr h VC gadget choices chi m' = some shareR := by
  refine mulRecvFinish_alt repr chi (mul_left_injective₀ hchi0) gadget choices _ _ _ _ _ _
    (by rw [additiveRecv_length, additiveRecv_length]) (fun j hj => ?_) shareR hon
  rw [additiveRecv_length] at hj
  rw [additiveRecv_getD repr _ _ _ _ _ _ hj, additiveRecv_getD repr _ _ _ _ _ _ hj]
  cases halt with
  | rcheck i x hm => subst hm; exact Or.inl rfl
  | ucheck x hm => subst hm; exact Or.inl rfl
  | comb1 i x hm =>
    subst hm; left
    simp only [recvAt]
    rw [apply_getD_set Prod.fst _ i j _ _ (by rfl)]
  | comb0 i x hm =>
    subst hm; right
    refine ⟨?_, rfl, rfl⟩
    simp only [recvAt]
    rw [apply_getD_set Prod.snd _ i j _ _ (by rfl)]

/-- χ₁ ≠ 0 is not needed: the second components never reach the share -/
theorem multiply_single_alteration (h : OTHash F) (V0 V1 VC : List Nat) (gadget : List F) (choices : Nat)
    (alpha chi : F × F) (hchi0 : chi.1 ≠ 0)
    (hvc : ∀ i, i < gadget.length → VC.getD i 0 = if choices.testBit i then V1.getD i 0 else V0.getD i 0)
    (m' : MulSendMsg F) (halt : SingleAlt (honestMsg repr h V0 V1 gadget alpha chi) m') :
    recvRound2 repr h VC gadget choices chi m' = none ∨
    recvRound2 repr h VC gadget choices chi m'
      = recvRound2 repr h VC gadget choices chi (honestMsg repr h V0 V1 gadget alpha chi) := by
  obtain ⟨hlc, hlr⟩ := honestMsg_lengths repr h V0 V1 gadget alpha chi
  cases halt with
  | combLen l' hl hm =>
    left; subst hm
    unfold recvRound2
    rw [if_neg (not_not.mpr hlr), if_pos (hlc ▸ hl)]
  | rcLen l' hl hm =>
    left; subst hm
    unfold recvRound2
    rw [if_pos (hlr ▸ hl)]
  | field hf =>
    obtain ⟨shareR, hon, _⟩ := recvRound2_honest repr h V0 V1 VC gadget choices alpha chi hvc
    rw [hon]
    rw [recvRound2_of_len repr h VC gadget choices chi _ hlc hlr] at hon
    rw [recvRound2_of_len repr h VC gadget choices chi m' (hf.lengths.1.trans hlc) (hf.lengths.2.trans hlr)]
    exact recvCore_fieldAlt repr h VC gadget choices chi hchi0 _ m' shareR hon hf

theorem multiply_single_alteration_run (h : OTHash F) (hchi : ChiOK h) (ss : CorreSendSetup)
    (rs : CorreRecvSetup) (hrel : SetupRel ss rs) (alpha alpha1 beta : F) (gamma extra : Nat)
    (hchi0 : (h.mchi (mulReceiverRound1 (lawful F repr) h rs beta gamma extra).2.1.U).1 ≠ 0) :
    let r1 := mulReceiverRound1 (lawful F repr) h rs beta gamma extra
    ∃ m shareS, mulSenderRound1 (lawful F repr) h ss (alpha, alpha1) r1.2.1 = some (m, shareS) ∧
      ∀ m', SingleAlt m m' →
        mulReceiverRound2 (lawful F repr) h r1.1 r1.2.1.U r1.2.2 m' = none ∨
        mulReceiverRound2 (lawful F repr) h r1.1 r1.2.1.U r1.2.2 m'
          = mulReceiverRound2 (lawful F repr) h r1.1 r1.2.1.U r1.2.2 m := by
  intro r1
  refine ⟨_, _, mulSenderRound1_of_extSend repr h ss (alpha, alpha1) r1.2.1 _
    (kos_check_complete h hchi ss rs hrel _ r1.1 extra), fun m' halt => ?_⟩
  simp only [mulReceiverRound2_eq]
  exact multiply_single_alteration repr h _ _ r1.2.2 _ r1.1 (alpha, alpha1) _ hchi0
    (ext_ot_choice h ss rs hrel _ r1.1 extra) m' halt

end domain

end Mps.OT
