import MpsProofs.Algebra
/-
  M2 lemmas, part 3: signing algebra in the field (CMP δ/χ shares with an abstract MtA, σ assembly, the ECDSA
  equation for a nonce point ρ•g, the three multiplications of Doerner signing).
-/
namespace Mps.Alg

section
variable {F G : Type} [Field F] [AddCommGroup G] [Module F G] (g : G) {ι : Type} [DecidableEq ι]

@[alg] theorem cmpMtaShare_lawful (a k : F) (l : List (F × F)) :
    cmpMtaShare (lawful g : Ops F G) a k l = a * k + (l.map fun ab => ab.1 + ab.2).sum := by
  unfold cmpMtaShare
  simp only [alg, add_assoc]
  rw [← foldl_add_eq, List.foldl_map]

theorem othersOf_toFinset (l : List ι) (i : ι) : (othersOf l i).toFinset = l.toFinset.erase i := by
  ext j
  simp [othersOf, and_comm]

theorem othersOf_nodup (l : List ι) (hl : l.Nodup) (i : ι) : (othersOf l i).Nodup := hl.filter _

theorem cmpShareOf_lawful (l : List ι) (hl : l.Nodup) (a k : ι → F) (α β : ι → ι → F) (i : ι) :
    cmpShareOf (lawful g : Ops F G) l a k α β i = a i * k i + ∑ j ∈ l.toFinset.erase i, (α i j + β i j) := by
  unfold cmpShareOf
  rw [cmpMtaShare_lawful, List.map_map, ← List.sum_toFinset _ (othersOf_nodup l hl i), othersOf_toFinset]
  rfl

theorem cmp_shares_sum (l : List ι) (hl : l.Nodup) (a k : ι → F) (α β : ι → ι → F)
    (hmta : ∀ i ∈ l, ∀ j ∈ l, i ≠ j → α i j + β j i = a j * k i) :
    (l.map fun i => cmpShareOf (lawful g : Ops F G) l a k α β i).sum = (l.map k).sum * (l.map a).sum := by
  simp only [cmpShareOf_lawful g l hl]
  rw [← List.sum_toFinset _ hl, ← List.sum_toFinset _ hl, ← List.sum_toFinset _ hl]
  set s := l.toFinset
  -- swapping i and j in the β part pairs β j i with α i j; row i is then a i·k i + Σ_{j≠i} a j·k i = k i·Σ a
  have hswap : ∑ i ∈ s, ∑ j ∈ s.erase i, β i j = ∑ i ∈ s, ∑ j ∈ s.erase i, β j i :=
    Finset.sum_comm' fun i j => by simp only [Finset.mem_erase, ne_comm, and_left_comm, and_assoc]
  have h1 : ∑ i ∈ s, (a i * k i + ∑ j ∈ s.erase i, (α i j + β i j)) =
      ∑ i ∈ s, (a i * k i + ∑ j ∈ s.erase i, (α i j + β j i)) := by
    simp only [Finset.sum_add_distrib]
    rw [hswap]
  rw [h1, Finset.sum_mul_sum]
  refine Finset.sum_congr rfl fun i hi => ?_
  rw [← Finset.add_sum_erase s (fun j => k i * a j) hi, mul_comm (k i)]
  refine congrArg (a i * k i + ·) (Finset.sum_congr rfl fun j hj => ?_)
  have hj' := Finset.mem_erase.mp hj
  rw [hmta i (List.mem_toFinset.mp hi) j (List.mem_toFinset.mp hj'.2) hj'.1.symm, mul_comm]

omit [DecidableEq ι] in
theorem ecdsa_assemble (S : List ι) (k χ : ι → F) (x m r : F) (hχ : (S.map χ).sum = (S.map k).sum * x) :
    (S.map fun i => m * k i + r * χ i).sum = (S.map k).sum * (m + r * x) := by
  rw [List.sum_map_add, List.sum_map_mul_left, List.sum_map_mul_left, hχ]; ring

/-- the ECDSA equation for the nonce point ρ•g -/
theorem ecdsa_of_log {ρ m r x s : F} (hs : ρ * s = m + r * x) (hs0 : s ≠ 0) :
    s⁻¹ • (m • g + r • x • g) = ρ • g := by
  rw [← mul_smul, ← add_smul, ← hs, ← mul_smul, mul_comm ρ, inv_mul_cancel_left₀ hs0]

/-- the case ρ = k⁻¹ (CMP) -/
theorem ecdsa_core (k m r xsec s : F) (hs : s = k * (m + r * xsec)) (hs0 : s ≠ 0) :
    s⁻¹ • (m • g + r • (xsec • g)) = k⁻¹ • g :=
  ecdsa_of_log g (by rw [hs, inv_mul_cancel_left₀ (left_ne_zero_of_mul (hs ▸ hs0))]) hs0

/-- Doerner signing: the three multiplications are fed α₀ = kA⁻¹ + φ, α₁ = skA·kA⁻¹, α₂ = kA⁻¹ against kB⁻¹, kB⁻¹,
    skB·kB⁻¹; once B has taken φ·kB⁻¹ off, the two sides hold additive shares of (kA·kB)⁻¹ and of (kA·kB)⁻¹·sk.
    The first equation is what both sides hash as Γ₁. -/
theorem doerner_field {skA skB kA kB φ tA1 tB1 tA21 tB21 tA22 tB22 : F} (hkA : kA ≠ 0) (hkB : kB ≠ 0)
    (e1 : tA1 + tB1 = (kA⁻¹ + φ) * kB⁻¹) (e2 : tA21 + tB21 = skA * kA⁻¹ * kB⁻¹)
    (e3 : tA22 + tB22 = kA⁻¹ * (skB * kB⁻¹)) :
    (tA1 + tB1) * (kA * kB) = 1 + φ * kA ∧
    tA1 + (-(φ * kB⁻¹) + tB1) = (kA * kB)⁻¹ ∧
    tA21 + tA22 + (tB21 + tB22) = (kA * kB)⁻¹ * (skA + skB) := by
  refine ⟨?_, ?_, ?_⟩
  · rw [e1]; field_simp
  · linear_combination e1
  · linear_combination e2 + e3

end
end Mps.Alg
