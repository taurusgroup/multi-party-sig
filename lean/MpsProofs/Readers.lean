import Mps.Readers
/- The reader models in closed form (core-only): `readFull` is `take` of what the Read calls deliver together,
   `serve` cuts the stream into consecutive blocks. -/
namespace Mps.Readers

theorem readFull_eq_take_min {α : Type} (s : List α) (want : Nat) (chunks : List Nat) :
    readFull s want chunks = s.take (min want chunks.sum) := by
  fun_induction readFull s want chunks with
  | case1 => simp
  | case2 => simp
  | case3 s want c cs k ih => rw [ih, ← List.take_add, List.sum_cons]; congr 1; omega

theorem length_le_sum (l : List Nat) (h : ∀ c ∈ l, 0 < c) : l.length ≤ l.sum := by
  induction l with
  | nil => exact Nat.le_refl _
  | cons c cs ih =>
    have := h c (List.mem_cons_self ..)
    have := ih fun x hx => h x (List.mem_cons_of_mem _ hx)
    simp only [List.length_cons, List.sum_cons]; omega

theorem readFull_eq_take {α : Type} (chunks : List Nat) (s : List α) (want : Nat) (h : want ≤ chunks.sum) :
    readFull s want chunks = s.take want := by
  rw [readFull_eq_take_min, Nat.min_eq_left h]

theorem serve_length {α : Type} (n k : Nat) : ∀ (s : List α), (serve s n k).length = k := by
  induction k with
  | zero => intro s; rfl
  | succ k ih => intro s; simp [serve, ih]

theorem serve_getElem? {α : Type} (n : Nat) : ∀ (k : Nat) (s : List α) (i : Nat), i < k →
    (serve s n k)[i]? = some ((s.drop (n * i)).take n) := by
  intro k
  induction k with
  | zero => intro s i h; omega
  | succ k ih =>
    intro s i h
    cases i with
    | zero => simp [serve]
    | succ i =>
      simp only [serve, List.getElem?_cons_succ]
      rw [ih (s.drop n) i (by omega), List.drop_drop]
      congr 3
      rw [Nat.mul_succ]; omega

theorem serve_flatten {α : Type} (n : Nat) : ∀ (k : Nat) (s : List α), (serve s n k).flatten = s.take (n * k) := by
  intro k
  induction k with
  | zero => intro s; simp [serve]
  | succ k ih =>
    intro s
    simp only [serve, List.flatten_cons, ih]
    rw [Nat.mul_succ, Nat.add_comm (n * k) n, List.take_add]

end Mps.Readers
