import MpsProofs.Handler
import MpsProofs.Confluence
/-
  Blame provenance (C04): a message failure blamed on `f` has a witness in the queues, a message of the current round
  from `f` that deviates (`BlameOk`), and no scripted message deviates (`deviates_not_emitted`). Core-only.
-/
namespace Mps.Handler

/-- the content of a p2p message makes `VerifyMessage` / `StoreMessage` fail -/
def badP2P (m : Msg) : Prop :=
  m.dec = none ∨ ∃ c, m.dec = some c ∧ (hasFlag c.f fFailVerify = true ∨ hasFlag c.f fFailStore = true)

/-- the content of a broadcast message makes `StoreBroadcastMessage` fail -/
def badB (m : Msg) : Prop := m.dec = none ∨ ∃ c, m.dec = some c ∧ hasFlag c.f fFailStoreB = true

def Deviates (spec : RoundSpec) (m : Msg) : Prop :=
  (m.bcast = false ∧ (spec.recvP = false ∨ badP2P m)) ∨ (m.bcast = true ∧ (spec.recvB = false ∨ badB m))

theorem emitted_not_deviates (s' : State) (nx : RoundSpec) (m : Msg) (hm : m ∈ emitFor s' nx) : ¬ Deviates nx m := by
  obtain ⟨to, b, hb, rfl⟩ := mem_emitFor hm
  rintro (⟨hk, hbad⟩ | ⟨hk, hbad⟩) <;> cases (hk : b = _)
  · rcases hbad with h | h | ⟨c, hc, hf⟩
    · exact absurd (hb.symm.trans h) (by decide)
    · cases h
    · cases hc; exact (by decide : ¬(hasFlag 0 fFailVerify = true ∨ hasFlag 0 fFailStore = true)) hf
  · rcases hbad with h | h | ⟨c, hc, hf⟩
    · exact absurd (hb.symm.trans h) (by decide)
    · cases h
    · cases hc; exact (by decide : ¬hasFlag 0 fFailStoreB = true) hf

theorem roundStoreP2P_none (s : State) (m : Msg) (h : roundStoreP2P s m = none) : badP2P m := by
  rw [roundStoreP2P_eq] at h
  exact (roundStore_none h).imp_right fun ⟨c, hd, hf⟩ =>
    ⟨c, hd, by simpa only [Bool.not_eq_false', Bool.or_eq_true] using hf⟩

theorem roundStoreBcast_none (s : State) (m : Msg) (h : roundStoreBcast s m = none) : badB m := by
  rw [roundStoreBcast_eq] at h
  exact (roundStore_none h).imp_right fun ⟨c, hd, hf⟩ => ⟨c, hd, by simpa using hf⟩

def QueueKeys (s : State) : Prop :=
  (∀ e ∈ s.msgs, e.1 = e.2.2.rnd ∧ e.2.1 = e.2.2.frm ∧ e.2.2.bcast = false) ∧
  (∀ e ∈ s.bc, e.1 = e.2.2.rnd ∧ e.2.1 = e.2.2.frm ∧ e.2.2.bcast = true)

theorem store_queueKeys (s : State) (m : Msg) (o : QueueKeys s) : QueueKeys (store s m) := by
  refine ⟨fun e he => ?_, fun e he => ?_⟩
  · rcases (mem_store_msgs s m e).mp he with he | ⟨-, hb, -, rfl⟩
    · exact o.1 e he
    · exact ⟨rfl, rfl, hb⟩
  · rcases (mem_store_bc s m e).mp he with he | ⟨-, hb, -, rfl⟩
    · exact o.2 e he
    · exact ⟨rfl, rfl, hb⟩

theorem queueKeys_preserved (H : Bytes → Bytes) : Preserved H QueueKeys :=
  preserved_of_queues H _ (fun _ _ o _ h2 h3 _ => by unfold QueueKeys at *; rw [← h2, ← h3]; exact o)
    store_queueKeys (fun s o => by rw [fillBh_eq]; exact o)

def IdxOk (s : State) : Prop := s.cur = 0 ∨ ∃ spec, s.sc.rounds[s.idx]? = some spec ∧ spec.num = s.cur

theorem idxOk_preserved (H : Bytes → Bytes) : Preserved H IdxOk where
  onCore := fun h o => by rw [sameCore_iff.mp h]; exact o
  onStore := fun s m o => by rw [store_with]; exact o
  onFill := fun s o => by rw [fillBh_eq]; exact o
  onAbort := fun s e o => by cases e <;> exact o
  onSend := fun s nx o => by rw [sendAll_with]; exact o
  onEnter := fun s i nx h1 _ _ => Or.inr ⟨nx, h1, rfl⟩
  onEnter0 := fun _ _ => Or.inl rfl
  onOutput := fun _ _ _ => Or.inl rfl

theorem reach_idxOk {H : Bytes → Bytes} {sc : Script} (s : State) (r : Reach H sc s) : IdxOk s := by
  apply reach_pres (idxOk_preserved H) sc _ s r
  unfold IdxOk state0
  simp only
  cases hr : sc.rounds with
  | nil => left; rfl
  | cons a t => right; exact ⟨a, by simp, by simp⟩

theorem curSpec_of_idxOk (s : State) (o : IdxOk s) (hc : s.cur ≠ 0) :
    (curSpec s).num = s.cur ∧ curSpec s ∈ s.sc.rounds := by
  rcases o with h | ⟨spec, h1, h2⟩
  · exact absurd h hc
  · rw [curSpec_of_getElem? h1]
    exact ⟨h2, List.mem_of_getElem? h1⟩

def Stored (s : State) (m : Msg) : Prop := (∃ e ∈ s.msgs, e.2.2 = m) ∨ (∃ e ∈ s.bc, e.2.2 = m)

def Witness (s : State) (spec : RoundSpec) (f : Bytes) : Prop :=
  ∃ m, Stored s m ∧ m.frm = f ∧ m.rnd = s.cur ∧ Deviates spec m

theorem QueueKeys.of_lookup {s : State} (qk : QueueKeys s) (b : Bool) {r : Nat} {id : Bytes} {m : Msg}
    (h : lookup (qOf b s) r id = some m) : Stored s m ∧ m.rnd = r ∧ m.frm = id ∧ m.bcast = b := by
  obtain ⟨e, he, rfl, hr, hid⟩ := lookup_keys _ _ _ _ h
  cases b
  · have k := qk.1 e he
    exact ⟨Or.inl ⟨e, he, rfl⟩, k.1 ▸ hr, k.2.1 ▸ hid, k.2.2⟩
  · have k := qk.2 e he
    exact ⟨Or.inr ⟨e, he, rfl⟩, k.1 ▸ hr, k.2.1 ▸ hid, k.2.2⟩

theorem p2p_fail_witness (s : State) {m : Msg} {id : Bytes} (hl : lookup s.msgs s.cur id = some m)
    (hv : verifyMessage s m = .bad) (qk : QueueKeys s) : Witness s (curSpec s) m.frm := by
  obtain ⟨hs, hr, -, hb⟩ := qk.of_lookup false hl
  exact ⟨m, hs, rfl, hr, Or.inl ⟨hb, (verifyMessage_bad hv).2.imp_right (roundStoreP2P_none _ _)⟩⟩

theorem bcast_fail_witness (s : State) {m : Msg} {id : Bytes} (hl : lookup s.bc s.cur id = some m)
    (hv : verifyBroadcastMessage s m = .bad) (qk : QueueKeys s) : Witness s (curSpec s) m.frm := by
  obtain ⟨hs, hr, -, hb⟩ := qk.of_lookup true hl
  rcases (verifyBroadcastMessage_bad hv).2 with h | h | ⟨s1, p, h1, hlp, hvp⟩
  · exact ⟨m, hs, rfl, hr, Or.inr ⟨hb, Or.inl h⟩⟩
  · exact ⟨m, hs, rfl, hr, Or.inr ⟨hb, Or.inr (roundStoreBcast_none _ _ h)⟩⟩
  · -- the broadcast is fine, the sender's queued p2p message of the round is not; storing the broadcast has
    -- changed the accumulators only
    rw [sameCore_iff.mp (roundStoreBcast_sameCore s s1 m h1)] at hlp hvp
    rw [hr] at hlp
    exact (qk.of_lookup false hlp).2.2.1 ▸
      p2p_fail_witness { s with acc := s1.acc, accused := s1.accused } hlp hvp qk

theorem failOf_culprit {r : VRes} {frm c : Bytes} {st : State} (h : (failOf r frm st).2 = some (.culprit c)) :
    r = .bad ∧ frm = c := by
  cases r <;> cases h
  exact ⟨rfl, rfl⟩

theorem replayQueued_culprit (s : State) (qk : QueueKeys s) (s5 : State) (c : Bytes)
    (h : replayQueued s = (s5, some (.culprit c))) : Witness s (curSpec s) c := by
  have := replayQueued_induct s
    (P := fun acc => SameCore s acc.1 ∧ ∀ c, acc.2 = some (.culprit c) → Witness s (curSpec s) c)
    ⟨SameCore.refl s, fun _ h => nomatch h⟩ ?_
  · rw [h] at this; exact this.2 c rfl
  · intro ⟨st, o⟩ id ⟨hc, hw⟩
    refine ⟨replayStep_sameCore _ _ _ id s hc, ?_⟩
    cases o with
    | some f => exact hw
    | none =>
      intro c' hc'
      -- so far the replay has changed the accumulators only
      obtain ⟨a, u, rfl⟩ : ∃ a u, st = { s with acc := a, accused := u } := ⟨_, _, sameCore_iff.mp hc⟩
      rcases replayStep_cases (curSpec s) s.cur _ id with e | ⟨-, m, hl, e⟩ | ⟨-, m, hl, e⟩ <;> rw [e] at hc'
      · cases hc'
      · obtain ⟨hv, rfl⟩ := failOf_culprit hc'
        exact bcast_fail_witness { s with acc := a, accused := u } hl hv qk
      · obtain ⟨hv, rfl⟩ := failOf_culprit hc'
        exact p2p_fail_witness { s with acc := a, accused := u } hl hv qk

def BlameOk (t : State) : Prop := ∀ f, t.err = some (.msgFail f) → Witness t (curSpec t) f

theorem blameOk_of_no_err {t : State} (h : t.err = none) : BlameOk t := fun f hf => by rw [h] at hf; cases hf

theorem finalizeStep_blameOk (H : Bytes → Bytes) (s : State) (l : Live s) (qk : QueueKeys s) :
    BlameOk (finalizeStep H s).st := by
  have l1 : Live (fillBh H s) := l.of_sameLife (fillBh_sameLife H s)
  apply finalizeStep_cases H s (motive := fun st => BlameOk st.st)
  case stay => exact blameOk_of_no_err l1.2.1
  case echo => exact fun _ _ f hf => nomatch hf
  case finErr => exact fun _ _ _ f hf => nomatch hf
  case protoAbort => exact fun _ _ _ _ f hf => nomatch hf
  case output => exact fun _ _ _ _ => blameOk_of_no_err l1.2.1
  case sent => exact fun _ _ _ _ _ => blameOk_of_no_err (sendAll_live _ _ l1).2.1
  case replayed =>
    intro i nx s5 f _ _ _ hq
    cases f with
    | none => exact blameOk_of_no_err (entered_live hq l1).2.1
    | some fl =>
      cases fl with
      | echo => exact fun f hf => nomatch hf
      | culprit c =>
        -- the only way to a message failure: the culprit comes out of this replay, with its witness
        intro f hf
        cases hf
        have q4 : QueueKeys (enter (sendAll (fillBh H s) (emitFor (fillBh H s) nx)) i nx) :=
          (queueKeys_preserved H).onSend _ nx ((queueKeys_preserved H).onFill s qk)
        rw [sameCore_iff.mp (replayed_sameCore hq)]
        exact replayQueued_culprit _ q4 s5 c hq

theorem finalize_blameOk (H : Bytes → Bytes) (fuel : Nat) (s : State) (l : Live s) (qk : QueueKeys s) :
    BlameOk (finalize H fuel s) :=
  finalize_sat H (P := fun s => Live s ∧ QueueKeys s) (fun _ h => blameOk_of_no_err h.1.2.1)
    (fun s ⟨l, qk⟩ => ((finalizeStep_good H s l).and (Step.sat_st (finalizeStep_pres (queueKeys_preserved H) s qk))).halt
      (finalizeStep_blameOk H s l qk)) fuel s ⟨l, qk⟩

theorem store_lookup (s : State) (m : Msg) (hd : duplicate s m = false) (h0 : (m.rnd == 0) = false) :
    (m.bcast = true → lookup (store s m).bc m.rnd m.frm = some m) ∧
    (m.bcast = false → lookup (store s m).msgs m.rnd m.frm = some m) := by
  have hs : hasSlot s.sc m.rnd = true := by
    cases h : hasSlot s.sc m.rnd
    · simp [duplicate, h0, h] at hd
    · rfl
  have hn : lookup (qOf m.bcast s) m.rnd m.frm = none := by
    rw [duplicate_eq hs] at hd
    exact Option.not_isSome_iff_eq_none.mp (by rw [hd]; exact Bool.false_ne_true)
  have := lookup_store m.bcast s m m.rnd m.frm
  rw [hn, hs] at this
  constructor <;> intro hb <;> rw [hb] at this <;> simpa [qOf_true, qOf_false] using this

theorem accept_blameOk (H : Bytes → Bytes) (s : State) (m : Msg) (l : Live s) (qk : QueueKeys s) :
    BlameOk (accept H s m) := by
  have l1 := l.of_sameLife (store_sameLife s m)
  have q1 := store_queueKeys s m qk
  apply accept_cases H s m
  case ignored => exact blameOk_of_no_err l.2.1
  case notice => exact fun _ _ f hf => nomatch hf
  case queued => exact fun _ _ _ => blameOk_of_no_err l1.2.1
  case verified =>
    intro r a h0 hcur hv
    cases r with
    | echo => exact fun f hf => nomatch hf
    | ok s2 =>
      have c2 := verified_sameCore hv
      exact finalize_blameOk H _ s2 (l1.of_sameLife c2.toSameLife) ((queueKeys_preserved H).onCore c2 q1)
    | bad =>
      -- the message just stored is the witness (or, for a broadcast, the sender's queued p2p message)
      intro f hf
      cases hf
      have sl := store_lookup s m a.fresh (by simpa using h0)
      rw [← hcur] at sl
      split at hv
      · next hb => exact bcast_fail_witness (store s m) (sl.1 hb) hv q1
      · next hb => exact p2p_fail_witness (store s m) (sl.2 (by simpa using hb)) hv q1

theorem apply_blameOk (H : Bytes → Bytes) (s : State) (c : Call) (g : Good s) (qk : QueueKeys s) (b : BlameOk s) :
    BlameOk (apply H s c) := by
  cases c
  case accept m =>
    rcases g with l | d
    · exact accept_blameOk H s m l qk
    · rw [apply, accept_terminal H s m (terminal_of_done d)]; exact b
  case stop =>
    rw [apply, stop]
    split
    · exact b
    · exact fun f hf => nomatch hf
  all_goals exact b

theorem blameOk_run (H : Bytes → Bytes) (sc : Script) (calls : List Call) : BlameOk (run H sc calls) := by
  have qk0 : QueueKeys (state0 sc) := ⟨fun _ h => (nomatch h), fun _ h => (nomatch h)⟩
  exact (run_induct H (P := fun s => Good s ∧ QueueKeys s ∧ BlameOk s)
    (fun s c ⟨g, qk, b⟩ => ⟨apply_good H s c g, apply_pres (queueKeys_preserved H) s c qk, apply_blameOk H s c g qk b⟩)
    sc calls
    ⟨init_good H sc, finalize_pres (queueKeys_preserved H) _ _ qk0, finalize_blameOk H _ _ ⟨rfl, rfl, rfl⟩ qk0⟩).2.2

theorem deviates_not_emitted (t s' : State) (ix : IdxOk t) (hc : t.cur ≠ 0)
    (hnodup : (t.sc.rounds.map (·.num)).Nodup) (m : Msg) (hm : m.rnd = t.cur) (hd : Deviates (curSpec t) m)
    (nx : RoundSpec) (hnx : nx ∈ t.sc.rounds) : m ∉ emitFor s' nx := by
  intro hmem
  obtain ⟨hnum, hin⟩ := curSpec_of_idxOk t ix hc
  have hr : m.rnd = nx.num := (emitW_fields hmem).1
  -- same number, hence the same round of the script
  have hsame : nx = curSpec t := pairwise_ne_inj (List.pairwise_map.mp hnodup) hnx hin (hr.symm.trans (hm.trans hnum.symm))
  subst hsame
  exact emitted_not_deviates s' _ m hmem hd

def NoPeerAbort (t : State) : Prop := ∀ g, t.err ≠ some (.peerAbort g)

theorem noPeerAbort_of_no_err {t : State} (h : t.err = none) : NoPeerAbort t := fun _ e => nomatch h ▸ e

theorem finalizeStep_noPeerAbort (H : Bytes → Bytes) (s : State) (l : Live s) : NoPeerAbort (finalizeStep H s).st := by
  have l1 : Live (fillBh H s) := l.of_sameLife (fillBh_sameLife H s)
  apply finalizeStep_cases H s (motive := fun st => NoPeerAbort st.st)
  case stay => exact noPeerAbort_of_no_err l1.2.1
  case echo => exact fun _ _ _ h => nomatch h
  case finErr => exact fun _ _ _ _ h => nomatch h
  case protoAbort => exact fun _ _ _ _ _ h => nomatch h
  case output => exact fun _ _ _ _ => noPeerAbort_of_no_err l1.2.1
  case sent => exact fun _ _ _ _ _ => noPeerAbort_of_no_err (sendAll_live _ _ l1).2.1
  case replayed =>
    intro i nx s5 f _ _ _ hq
    cases f with
    | none => exact noPeerAbort_of_no_err (entered_live hq l1).2.1
    | some fl => cases fl <;> exact fun _ h => nomatch h

theorem finalize_noPeerAbort (H : Bytes → Bytes) (fuel : Nat) (s : State) (l : Live s) :
    NoPeerAbort (finalize H fuel s) :=
  finalize_sat H (Q := NoPeerAbort) (fun _ l => noPeerAbort_of_no_err l.2.1)
    (fun s l => (finalizeStep_good H s l).halt (finalizeStep_noPeerAbort H s l)) fuel s l

theorem accept_peerAbort (H : Bytes → Bytes) (s : State) (m : Msg) (l : Live s) (f : Bytes)
    (h : (accept H s m).err = some (.peerAbort f)) : m.rnd = 0 ∧ m.frm = f := by
  have l1 := l.of_sameLife (store_sameLife s m)
  revert h
  apply accept_cases H s m (motive := fun t => t.err = some (.peerAbort f) → m.rnd = 0 ∧ m.frm = f)
  case ignored => exact fun h => by rw [l.2.1] at h; cases h
  case notice => exact fun _ h0 h => ⟨h0, by cases h; rfl⟩
  case queued => exact fun _ _ _ h => by rw [l1.2.1] at h; cases h
  case verified =>
    intro r _ _ _ hv h
    cases r with
    | ok s2 => exact absurd h (finalize_noPeerAbort H _ s2 (l1.of_sameLife (verified_sameCore hv).toSameLife) f)
    | _ => cases h

end Mps.Handler
