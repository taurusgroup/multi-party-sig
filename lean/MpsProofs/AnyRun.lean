import MpsProofs.System
import Mps.Byz
/-
  One honest handler fed with ANYTHING (any sequence of `Accept` calls with any messages): what still holds of its
  state. Used for the sessions with a deviating participant (MpsProofs/Byz.lean). Core-only.

  The invariants need to know in which situation an elementary transition happens (which error is raised, that a round
  is left only when everything was received and the echo check passed, that a verified message sits in its queue):
  `PresC` is `Preserved` (MpsProofs/Handler.lean) with that context, and `run_presC` the induction through `finalize` /
  `Accept` / a run. Each invariant comes with its `…_presC` instance and its `run_…`.
-/
namespace Mps.Handler
open Mps

-- Some cases below hold by unfolding `abort`, `enter0`, `enter` on a state `sendAll t _`; the unifier must not unfold
-- `sendAll` as well (slow, and only its lemmas are used).
attribute [local irreducible] sendAll

/-- the situation in which the protocol's `Finalize` of the current round is called (on the state `fillBh` returns) -/
structure Leaving (H : Bytes → Bytes) (t : State) : Prop where
  recv : receivedAllB H t = true
  filled : ((curSpec t).recvB && hasSlot t.sc t.cur) = true → (bhLookup t.bh t.cur).isSome = true
  check : checkBroadcastHash t = true

def InQueue (s : State) (m : Msg) : Prop :=
  (m.bcast = true → lookup s.bc s.cur m.frm = some m) ∧ (m.bcast = false → lookup s.msgs s.cur m.frm = some m)

/-- the error kinds that `Accept` raises outside the protocol's `Finalize` -/
def plainErr : ErrKind → Prop
  | .msgFail _ => True
  | .peerAbort _ => True
  | .echoMismatch => True
  | _ => False

/-- `P` survives every transition a handler of script `sc` makes inside `Accept`, each taken in its context; `B` is a
    background invariant that may be assumed wherever `P` is. -/
structure PresC (H : Bytes → Bytes) (sc : Script) (B P : State → Prop) : Prop where
  onFill : ∀ s, Reach H sc s → Live s → B s → P s → P (fillBh H s)
  onErr : ∀ s k, Reach H sc s → Live s → plainErr k → B s → P s → P (abort s (some k))
  onFinErr : ∀ t, Reach H sc t → Live t → Leaving H t → protoFinalize t = .error → B t → P t →
    P (abort t (some .finalizeErr))
  onProtoAbort : ∀ t cs, Reach H sc t → Live t → Leaving H t → protoFinalize t = .abortRound cs → B t → P t →
    P (abort (enter0 t) (some (.protoAbort cs)))
  onOutput : ∀ t v, Reach H sc t → Live t → Leaving H t → protoFinalize t = .output v → B t → P t →
    P (abort { enter0 t with result := some v } none)
  onSend : ∀ t i nx, Reach H sc t → Live t → Leaving H t → protoFinalize t = .round i nx → B t → P t →
    P (sendAll t (emitFor t nx))
  onEnter : ∀ t i nx, Reach H sc t → Live t → Leaving H t → protoFinalize t = .round i nx →
    B (sendAll t (emitFor t nx)) → P (sendAll t (emitFor t nx)) → P (enter (sendAll t (emitFor t nx)) i nx)
  onReplay : ∀ s s5 f, Reach H sc s → Live s → replayQueued s = (s5, f) → B s → P s → P s5
  onVerify : ∀ s s' m, Reach H sc s → Live s → InQueue s m →
    (if m.bcast then verifyBroadcastMessage s m else verifyMessage s m) = .ok s' → B s → P s → P s'

/-- no background invariant -/
def TT : State → Prop := fun _ => True

section
variable {H : Bytes → Bytes} {sc : Script} {B P : State → Prop}

theorem PresC.and (hb : PresC H sc TT B) (hp : PresC H sc B P) : PresC H sc TT (fun s => B s ∧ P s) where
  onFill := fun s r l _ o => ⟨hb.onFill s r l trivial o.1, hp.onFill s r l o.1 o.2⟩
  onErr := fun s k r l hk _ o => ⟨hb.onErr s k r l hk trivial o.1, hp.onErr s k r l hk o.1 o.2⟩
  onFinErr := fun s r l lv h _ o => ⟨hb.onFinErr s r l lv h trivial o.1, hp.onFinErr s r l lv h o.1 o.2⟩
  onProtoAbort := fun s cs r l lv h _ o => ⟨hb.onProtoAbort s cs r l lv h trivial o.1, hp.onProtoAbort s cs r l lv h o.1 o.2⟩
  onOutput := fun s v r l lv h _ o => ⟨hb.onOutput s v r l lv h trivial o.1, hp.onOutput s v r l lv h o.1 o.2⟩
  onSend := fun s i nx r l lv h _ o => ⟨hb.onSend s i nx r l lv h trivial o.1, hp.onSend s i nx r l lv h o.1 o.2⟩
  onEnter := fun s i nx r l lv h _ o => ⟨hb.onEnter s i nx r l lv h trivial o.1, hp.onEnter s i nx r l lv h o.1 o.2⟩
  onReplay := fun s s5 f r l h _ o => ⟨hb.onReplay s s5 f r l h trivial o.1, hp.onReplay s s5 f r l h o.1 o.2⟩
  onVerify := fun s s' m r l q h _ o => ⟨hb.onVerify s s' m r l q h trivial o.1, hp.onVerify s s' m r l q h o.1 o.2⟩

theorem plainErr_errOf (f : Fail) : plainErr (errOf f) := by
  cases f <;> exact trivial

theorem leaving_fill {s : State} (hr : receivedAllB H s = true) (hc : checkBroadcastHash (fillBh H s) = true) :
    Leaving H (fillBh H s) := by
  refine ⟨?_, fun h => ?_, hc⟩
  · rw [fillBh_eq H s]; exact hr
  · rw [fillBh_cur]
    rw [fillBh_eq H s] at h
    exact fillBh_filled H s h hr

theorem finalizeStep_presC (hp : PresC H sc TT P) (s : State) (r : Reach H sc s) (l : Live s) (o : P s) :
    P (finalizeStep H s).st := by
  have r1 : Reach H sc (fillBh H s) := Reach.fill r
  have l1 : Live (fillBh H s) := l.of_sameLife (fillBh_sameLife H s)
  have o1 : P (fillBh H s) := hp.onFill s r l trivial o
  refine finalizeStep_cases H s (motive := fun st => P st.st) o1
    (fun _ _ => hp.onErr _ _ r1 l1 trivial trivial o1)
    (fun hr hc h => hp.onFinErr _ r1 l1 (leaving_fill hr hc) h trivial o1)
    (fun cs hr hc h => hp.onProtoAbort _ cs r1 l1 (leaving_fill hr hc) h trivial o1)
    (fun v hr hc h => hp.onOutput _ v r1 l1 (leaving_fill hr hc) h trivial o1)
    (fun i nx hr hc h => hp.onSend _ i nx r1 l1 (leaving_fill hr hc) h trivial o1)
    (fun i nx s5 f hr hc h hq => ?_)
  -- a new round was entered and its queue replayed
  have lv := leaving_fill hr hc
  have o4 := hp.onEnter _ i nx r1 l1 lv h trivial (hp.onSend _ i nx r1 l1 lv h trivial o1)
  have hrd := protoFinalize_round _ i nx h
  have r4 : Reach H sc (enter (sendAll (fillBh H s) (emitFor (fillBh H s) nx)) i nx) :=
    Reach.enter i nx (by rw [sendAll_with]; exact hrd.1) (by rw [sendAll_with]; exact hrd.2)
      (Reach.send nx r1)
  have l4 := (sendAll_live _ (emitFor (fillBh H s) nx) l1).of_sameLife (enter_sameLife _ i nx)
  have o5 := hp.onReplay _ s5 f r4 l4 hq trivial o4
  cases f with
  | none => exact o5
  | some fl =>
    have c5 := replayed_sameCore hq
    exact hp.onErr s5 _ (Reach.core r4 c5) (l4.of_sameLife c5.toSameLife) (plainErr_errOf fl) trivial o5

theorem finalize_presC (hp : PresC H sc TT P) (fuel : Nat) (s : State) (r : Reach H sc s) (l : Live s) (o : P s) :
    P (finalize H fuel s) :=
  finalize_sat H (P := fun s => Reach H sc s ∧ Live s ∧ P s) (fun _ h => h.2.2)
    (fun s ⟨r, l, o⟩ => ((Step.sat_st (finalizeStep_pres (reach_preserved H sc) s r)).and
      ((finalizeStep_good H s l).and (Step.sat_st (finalizeStep_presC hp s r l o)))).halt (finalizeStep_presC hp s r l o))
    fuel s ⟨r, l, o⟩

/-- the situation in which `Accept` stores a message -/
structure Storing (s : State) (m : Msg) : Prop where
  can : canAccept s m = true
  live : Live s
  fresh : duplicate s m = false
  rnd : m.rnd ≠ 0

theorem Storing.known {s : State} {m : Msg} (st : Storing s m) : m.frm ∈ s.sc.ids ∧ s.cur ≤ m.rnd := by
  have a := (canAccept_iff s m).mp st.can
  exact ⟨a.known, a.notStale.resolve_right st.rnd⟩

theorem accept_presC (hp : PresC H sc TT P) (s : State) (m : Msg) (r : Reach H sc s) (l : Live s) (o : P s)
    (hst : Storing s m → P (store s m)) : P (accept H s m) := by
  refine accept_cases H s m (motive := P) o (fun _ _ => hp.onErr _ _ r l trivial trivial o)
    (fun a h0 _ => hst ⟨a.can, l, a.fresh, h0⟩) (fun res a h0 hcur hv => ?_)
  have o1 := hst ⟨a.can, l, a.fresh, h0⟩
  have r1 : Reach H sc (store s m) := Reach.store m r
  have l1 := l.of_sameLife (store_sameLife s m)
  cases res with
  | bad => exact hp.onErr _ _ r1 l1 trivial trivial o1
  | echo => exact hp.onErr _ _ r1 l1 trivial trivial o1
  | ok s2 =>
    have iq : InQueue (store s m) m := by
      rw [InQueue, hcur]; exact store_lookup s m a.fresh (by simpa using h0)
    have c2 := verified_sameCore hv
    exact finalize_presC hp _ s2 (Reach.core r1 c2) (l1.of_sameLife c2.toSameLife)
      (hp.onVerify (store s m) s2 m r1 l1 iq hv trivial o1)

theorem run_accepts (l : List Msg) (h0 : P (init H sc))
    (step : ∀ s m, m ∈ l → Reach H sc s → Live s → P s → P (accept H s m)) : P (run H sc (l.map Call.accept)) := by
  refine (List.foldlRecOn (motive := fun s => Reach H sc s ∧ Good s ∧ P s) _ (apply H)
    ⟨init_reach H sc, init_good H sc, h0⟩ fun s ⟨r, g, o⟩ c hc => ?_).2.2
  obtain ⟨m, hm, rfl⟩ := List.mem_map.mp hc
  refine ⟨accept_pres (reach_preserved H sc) _ _ r, accept_good H _ _ g, g.elim (step s m hm r · o) fun d => ?_⟩
  -- a handler that has ended ignores the call
  show P (accept H s m)
  rw [accept_terminal H s m (terminal_of_done d)]; exact o

theorem run_presC (hp : PresC H sc TT P) (h0 : P (state0 sc)) (l : List Msg)
    (hst : ∀ s m, m ∈ l → Reach H sc s → Storing s m → P s → P (store s m)) : P (run H sc (l.map Call.accept)) :=
  run_accepts l (by unfold init; exact finalize_presC hp _ _ Reach.start ⟨rfl, rfl, rfl⟩ h0)
    (fun s m hm r l o => accept_presC hp s m r l o (fun st => hst s m hm r st o))

end

section
open Mps.System
variable {H : Bytes → Bytes} {sc : Script}

theorem reach_queueKeys (s : State) (r : Reach H sc s) : QueueKeys s :=
  reach_pres (queueKeys_preserved H) sc ⟨by simp [state0], by simp [state0]⟩ s r

/-- then a running handler is in a round of the script (`reach_curSpec`) -/
def CurPos (s : State) : Prop := Live s → s.cur ≠ 0

theorem curPos_presC (H : Bytes → Bytes) (sc : Script) (ok : ScriptOk sc) : PresC H sc TT CurPos where
  onFill := fun s _ l _ o _ => by rw [fillBh_cur]; exact o l
  onErr := fun _ _ _ _ _ _ _ l' => absurd l'.1 (Nat.succ_ne_zero _)
  onFinErr := fun _ _ _ _ _ _ _ l' => absurd l'.1 (Nat.succ_ne_zero _)
  onProtoAbort := fun _ _ _ _ _ _ _ _ l' => absurd l'.1 (Nat.succ_ne_zero _)
  onOutput := fun _ _ _ _ _ _ _ _ l' => absurd l'.1 (Nat.succ_ne_zero _)
  onSend := fun t i nx _ l _ _ _ o _ => by rw [sendAll_cur]; exact o l
  onEnter := fun t i nx r _ _ hpf _ _ _ => by
    have hr := protoFinalize_round _ i nx hpf
    rw [reach_sc H sc _ r] at hr
    have := round_ge_two ok i nx (by omega) hr.1
    show nx.num ≠ 0
    omega
  onReplay := fun s s5 f _ l h _ o _ => by rw [← (replayed_sameCore h).2.2.1]; exact o l
  onVerify := fun s s' m _ l _ h _ o _ => by rw [← (verified_sameCore h).2.2.1]; exact o l

theorem state0_curPos (ok : ScriptOk sc) : CurPos (state0 sc) :=
  fun _ => by rw [ok.state0.1]; exact Nat.one_ne_zero

theorem CurPos.store {s : State} (m : Msg) (st : Storing s m) (c : CurPos s) : CurPos (Handler.store s m) :=
  fun _ => by rw [(store_idx s m).2]; exact c st.live

theorem run_curPos (ok : SessionOk sc) (l : List Msg) : CurPos (run H sc (l.map Call.accept)) :=
  run_presC (curPos_presC H sc ok.script) (state0_curPos ok.script) l (fun _ m _ _ st c => c.store m st)

theorem run_presC_pos {P : State → Prop} (ok : SessionOk sc) (hp : PresC H sc CurPos P) (h0 : P (state0 sc))
    (hst : ∀ s m, Reach H sc s → Storing s m → CurPos s → P s → P (store s m)) (l : List Msg) :
    P (run H sc (l.map Call.accept)) :=
  (run_presC ((curPos_presC H sc ok.script).and hp) ⟨state0_curPos ok.script, h0⟩ l
    (fun s m _ r st o => ⟨o.1.store m st, hst s m r st o.1 o.2⟩)).2

theorem reach_curSpec (s : State) (r : Reach H sc s) (l : Live s) (c : CurPos s) :
    ∃ spec, sc.rounds[s.idx]? = some spec ∧ spec.num = s.cur ∧ curSpec s = spec := by
  have hsc := reach_sc H sc s r
  rcases reach_idxOk s r with h | ⟨spec, h1, h2⟩
  · exact absurd h (c l)
  · rw [hsc] at h1
    exact ⟨spec, h1, h2, curSpec_of_getElem? (hsc ▸ h1)⟩

theorem reach_next (ok : ScriptOk sc) (t : State) (r : Reach H sc t) (l : Live t) (c : CurPos t) (i : Nat) (nx : RoundSpec)
    (h : protoFinalize t = .round i nx) : i = t.idx + 1 ∧ sc.rounds[t.idx + 1]? = some nx ∧ t.cur < nx.num := by
  have hr := protoFinalize_round _ i nx h
  rw [reach_sc H sc _ r] at hr
  obtain ⟨hr1, rfl⟩ := hr
  obtain ⟨spec, h1, h2, _⟩ := reach_curSpec t r l c
  exact ⟨rfl, hr1, h2 ▸ ok.num_lt h1 hr1 (Nat.lt_succ_self _)⟩

/-- the situation in which the messages for the round `nx` are sent -/
structure Sending (H : Bytes → Bytes) (sc : Script) (t : State) (nx : RoundSpec) : Prop where
  reach : Reach H sc t
  live : Live t
  pos : CurPos t
  leaving : Leaving H t
  next : ∃ i, protoFinalize t = .round i nx

def OutShape (H : Bytes → Bytes) (sc : Script) (s : State) : Prop :=
  ∀ m ∈ s.out, (m.rnd = 0 ∧ s.err.isSome = true ∧ m = noticeOf s.sc) ∨ ∃ t nx, Sending H sc t nx ∧ m ∈ emitFor t nx

theorem OutShape.of_sameLife {s s' : State} (h : SameLife s s') (o : OutShape H sc s) : OutShape H sc s' := by
  intro m hm
  rw [← h.2.2.2.2] at hm
  rw [← h.1, ← h.2.2.2.1]
  exact o m hm

theorem OutShape.abort {s : State} (k : ErrKind) (o : OutShape H sc s) : OutShape H sc (abort s (some k)) := by
  intro m hm
  simp only [Handler.abort, List.mem_append, List.mem_singleton] at hm
  rcases hm with hm | rfl
  · rcases o m hm with ⟨h1, _, h3⟩ | h
    · exact Or.inl ⟨h1, rfl, h3⟩
    · exact Or.inr h
  · exact Or.inl ⟨rfl, rfl, rfl⟩

theorem outShape_presC (H : Bytes → Bytes) (sc : Script) : PresC H sc CurPos (OutShape H sc) where
  onFill := fun s _ _ _ o => o.of_sameLife (fillBh_sameLife H s)
  onErr := fun s k _ _ _ _ o => o.abort k
  onFinErr := fun t _ _ _ _ _ o => o.abort _
  onProtoAbort := fun t cs _ _ _ _ _ o => OutShape.abort (s := enter0 t) _ o
  onOutput := fun t v _ _ _ _ _ o => o
  onSend := fun t i nx r l lv hpf c o => by
    intro m hm
    rw [sendAll_with] at hm ⊢
    exact (List.mem_append.mp hm).elim (o m) fun hm => Or.inr ⟨t, nx, ⟨r, l, c, lv, i, hpf⟩, hm⟩
  onEnter := fun t i nx _ _ _ _ _ o => o
  onReplay := fun s s5 f _ _ h _ o => o.of_sameLife (replayed_sameCore h).toSameLife
  onVerify := fun s s' m _ _ _ h _ o => o.of_sameLife (verified_sameCore h).toSameLife

theorem run_outShape (ok : SessionOk sc) (l : List Msg) : OutShape H sc (run H sc (l.map Call.accept)) :=
  run_presC_pos ok (outShape_presC H sc) (fun m hm => by simp [state0] at hm)
    (fun s m _ _ _ o => o.of_sameLife (store_sameLife s m)) l

theorem Sending.round {t : State} {nx : RoundSpec} (h : Sending H sc t nx) :
    ∃ i, 1 ≤ i ∧ sc.rounds[i]? = some nx ∧ t.sc = sc := by
  obtain ⟨i, hpf⟩ := h.next
  have hsc := reach_sc H sc t h.reach
  obtain ⟨hr, rfl⟩ := protoFinalize_round _ i nx hpf
  exact ⟨_, Nat.succ_pos _, hsc ▸ hr, hsc⟩

theorem emitFor_fields (s : State) (nx : RoundSpec) (m : Msg) (hm : m ∈ emitFor s nx) :
    m.rnd = nx.num ∧ m.bv = bhLookup s.bh (nx.num - 1) ∧ m.frm = s.sc.self ∧ (∃ c, m.dec = some c ∧ c.f = 0) ∧
    (m.bcast = true → nx.recvB = true) ∧ (m.bcast = false → nx.recvP = true) := by
  obtain ⟨h1, h2, h3, ⟨c, hc, hf, -⟩, -, h5⟩ := emitW_fields hm
  exact ⟨h1, h2, h3, ⟨c, hc, hf⟩, h5⟩

theorem Sending.stamped (ok : SessionOk sc) {t : State} {nx : RoundSpec} (h : Sending H sc t nx) {j : Nat}
    {sp : RoundSpec} (hj : 1 ≤ j) (hsp : sc.rounds[j]? = some sp) (hB : sp.recvB = true) (hnum : nx.num = sp.num + 1) :
    (bhLookup t.bh (nx.num - 1)).isSome = true := by
  obtain ⟨i, hpf⟩ := h.next
  obtain ⟨_, hn, hlt⟩ := reach_next ok.script t h.reach h.live h.pos i nx hpf
  obtain ⟨spec, h1, h2, h3⟩ := reach_curSpec t h.reach h.live h.pos
  -- `sp` is the round being left
  have hj' : j = t.idx := ok.script.between h1 hn hsp (by omega) (by omega)
  subst hj'
  rw [h1] at hsp
  cases hsp
  rw [show nx.num - 1 = t.cur by omega]
  exact h.leaving.filled (by rw [h3, hB, reach_sc H sc t h.reach, ← h2, hasSlot_round ok _ sp hj h1]; rfl)

def BvSome (s : State) : Prop :=
  ∀ m ∈ s.out, ∀ j sp, 1 ≤ j → s.sc.rounds[j]? = some sp → sp.recvB = true → m.rnd = sp.num + 1 → m.bv.isSome = true

theorem run_bvSome (ok : SessionOk sc) (l : List Msg) : BvSome (run H sc (l.map Call.accept)) := by
  intro m hm j sp hj hsp hB hr
  rw [run_sc] at hsp
  rcases run_outShape ok l m hm with ⟨h0, _⟩ | ⟨t, nx, hs, hmem⟩
  · omega
  · obtain ⟨e1, e2, _⟩ := emitFor_fields t nx m hmem
    rw [e2]
    exact hs.stamped ok hj hsp hB (e1 ▸ hr)

/-- holds when the scripted `Finalize` never fails and nobody calls `Stop` (`run_noSelfErr`) -/
def NoSelfErr (s : State) : Prop := s.err ≠ some .finalizeErr ∧ s.err ≠ some .stopped

theorem noSelfErr_presC (H : Bytes → Bytes) (sc : Script) (h0 : sc.finErrAt = 0) : PresC H sc TT NoSelfErr where
  onFill := fun s _ _ _ o => by
    unfold NoSelfErr; rw [← (fillBh_sameLife H s).1]; exact o
  onErr := fun s k _ _ hk _ _ => by
    cases k <;> first | exact absurd hk id | simp [NoSelfErr, abort]
  onFinErr := fun t r _ _ hpf _ _ => by
    have hc := (protoFinalize_cases t).1 hpf
    rw [reach_sc H sc _ r, h0] at hc
    simp at hc
  onProtoAbort := fun t cs _ _ _ _ _ _ => by simp [NoSelfErr, abort]
  onOutput := fun t v _ _ _ _ _ o => o
  onSend := fun t i nx _ _ _ _ _ o => by
    unfold NoSelfErr; rw [sendAll_with]; exact o
  onEnter := fun t i nx _ _ _ _ _ o => o
  onReplay := fun s s5 f _ _ h _ o => by
    unfold NoSelfErr; rw [← (replayed_sameCore h).toSameLife.1]; exact o
  onVerify := fun s s' m _ _ _ h _ o => by
    unfold NoSelfErr; rw [← (verified_sameCore h).toSameLife.1]; exact o

theorem run_noSelfErr (ok : SessionOk sc) (l : List Msg) : NoSelfErr (run H sc (l.map Call.accept)) :=
  run_presC (noSelfErr_presC H sc ok.noFinErr) (by simp [NoSelfErr, state0]) l
    (fun s m _ _ _ o => by rw [store_with]; exact o)

def Flagged (m : Msg) : Prop := ∃ c, m.dec = some c ∧ hasFlag c.f fAccuse = true

/-- the witness for an accusation of `f` -/
def AccW (s : State) (f : Bytes) : Prop := ∃ m, Stored s m ∧ m.frm = f ∧ Flagged m

def AccOk (s : State) : Prop :=
  (∀ f ∈ s.accused, AccW s f) ∧ (∀ cs, s.err = some (.protoAbort cs) → ∀ f ∈ cs, AccW s f)

theorem AccW.mono {s s' : State} {f : Bytes} (h1 : ∀ e ∈ s.msgs, e ∈ s'.msgs) (h2 : ∀ e ∈ s.bc, e ∈ s'.bc)
    (w : AccW s f) : AccW s' f := by
  obtain ⟨m, hs, hf, hfl⟩ := w
  refine ⟨m, ?_, hf, hfl⟩
  rcases hs with ⟨e, he, h⟩ | ⟨e, he, h⟩
  · exact Or.inl ⟨e, h1 e he, h⟩
  · exact Or.inr ⟨e, h2 e he, h⟩

theorem AccOk.congr {s s' : State} (h1 : s'.msgs = s.msgs) (h2 : s'.bc = s.bc) (h3 : s'.accused = s.accused)
    (h4 : s'.err = s.err) (o : AccOk s) : AccOk s' := by
  have hm : ∀ f, AccW s f → AccW s' f := fun f w => w.mono (by rw [h1]; exact fun _ h => h) (by rw [h2]; exact fun _ h => h)
  constructor
  · intro f hf; rw [h3] at hf; exact hm f (o.1 f hf)
  · intro cs hcs f hf; rw [h4] at hcs; exact hm f (o.2 cs hcs f hf)

theorem AccW.of_sameCore {s s' : State} (h : SameCore s s') {f : Bytes} (w : AccW s f) : AccW s' f := by
  rw [sameCore_iff.mp h]; exact w

theorem stored_of_lookup (b : Bool) (s : State) (r : Nat) (id : Bytes) (m : Msg) (h : lookup (qOf b s) r id = some m) :
    Stored s m := by
  obtain ⟨e, he, h2⟩ := lookup_mem _ _ _ _ h
  cases b
  · exact Or.inl ⟨e, he, h2⟩
  · exact Or.inr ⟨e, he, h2⟩

theorem InQueue.stored {s : State} {m : Msg} (iq : InQueue s m) : Stored s m := by
  cases hb : m.bcast with
  | true => exact stored_of_lookup true _ _ _ _ (iq.1 hb)
  | false => exact stored_of_lookup false _ _ _ _ (iq.2 hb)

/-- for both `roundStore…` functions (`ok`) -/
theorem storeContent_accW {ok : Content → Bool} {s s' : State} {m : Msg} (hst : Stored s m)
    (h : (m.dec.filter ok).map (storeContent s m) = some s') : ∀ f ∈ s'.accused, f ∈ s.accused ∨ AccW s f := by
  obtain ⟨c, hd, -, rfl⟩ := roundStore_some h
  intro f hf
  simp only [storeContent] at hf
  split at hf
  · next hfl =>
    rcases List.mem_append.mp hf with hf | hf
    · exact Or.inl hf
    · exact Or.inr ⟨m, hst, (List.mem_singleton.mp hf).symm, c, hd, hfl⟩
  · exact Or.inl hf

theorem verifyMessage_accW (s s' : State) (m : Msg) (hst : Stored s m) (h : verifyMessage s m = .ok s') :
    ∀ f ∈ s'.accused, f ∈ s.accused ∨ AccW s f := by
  rcases verifyMessage_cases s m with h1 | ⟨_, h1⟩ | ⟨_, _, h1⟩ | ⟨s2, _, _, hs, h1⟩ <;> rw [h1] at h <;> cases h
  · exact fun f hf => Or.inl hf
  · exact storeContent_accW hst (roundStoreP2P_eq s m ▸ hs)

theorem verifyBroadcastMessage_accW (s s' : State) (m : Msg) (hst : Stored s m) (h : verifyBroadcastMessage s m = .ok s') :
    ∀ f ∈ s'.accused, f ∈ s.accused ∨ AccW s f := by
  rcases verifyBroadcastMessage_cases s m with h1 | ⟨_, h1⟩ | ⟨_, _, h1⟩ | ⟨s1, _, hs, h1⟩
  · rw [h1] at h; cases h; exact fun f hf => Or.inl hf
  · rw [h1] at h; cases h
  · rw [h1] at h; cases h
  · have a1 := storeContent_accW hst (roundStoreBcast_eq s m ▸ hs)
    rcases h1 with h1 | ⟨p, _, hl, h1⟩ <;> rw [h1] at h
    · cases h; exact a1
    · -- the sender's queued p2p message of the round is verified in turn
      intro f hf
      rcases verifyMessage_accW s1 s' p (stored_of_lookup false _ _ _ _ hl) h f hf with g | g
      · exact a1 f g
      · exact Or.inr (g.of_sameCore (roundStoreBcast_sameCore s s1 m hs).symm)

theorem verify_accW (s s' : State) (m : Msg) (hst : Stored s m)
    (h : (if m.bcast then verifyBroadcastMessage s m else verifyMessage s m) = .ok s') :
    ∀ f ∈ s'.accused, f ∈ s.accused ∨ AccW s f := by
  split at h
  · exact verifyBroadcastMessage_accW s s' m hst h
  · exact verifyMessage_accW s s' m hst h

theorem failOf_accW {s st : State} {r : VRes} {frm : Bytes} (hc : SameCore s st) (ha : ∀ f ∈ st.accused, AccW s f)
    (hr : ∀ st', r = .ok st' → ∀ f ∈ st'.accused, f ∈ st.accused ∨ AccW st f) :
    ∀ f ∈ (failOf r frm st).1.accused, AccW s f := by
  cases r with
  | ok st' => exact fun f hf => (hr st' rfl f hf).elim (ha f) fun g => g.of_sameCore hc.symm
  | bad => exact ha
  | echo => exact ha

theorem replayStep_accW (s : State) (sp : RoundSpec) (n : Nat) (acc : State × Option Fail) (id : Bytes)
    (hc : SameCore s acc.1) (ha : ∀ f ∈ acc.1.accused, AccW s f) :
    ∀ f ∈ (replayStep sp n acc id).1.accused, AccW s f := by
  obtain ⟨st, c⟩ := acc
  cases c with
  | some c => exact ha
  | none =>
    rcases replayStep_cases sp n st id with e | ⟨_, m, hl, e⟩ | ⟨_, m, hl, e⟩ <;> rw [e]
    · exact ha
    · exact failOf_accW hc ha fun st' hv => verifyBroadcastMessage_accW st st' m (stored_of_lookup true _ _ _ _ hl) hv
    · exact failOf_accW hc ha fun st' hv => verifyMessage_accW st st' m (stored_of_lookup false _ _ _ _ hl) hv

theorem replayQueued_accW (s : State) (ha : ∀ f ∈ s.accused, AccW s f) : ∀ f ∈ (replayQueued s).1.accused, AccW s f :=
  (replayQueued_induct s (P := fun acc => SameCore s acc.1 ∧ ∀ f ∈ acc.1.accused, AccW s f) ⟨SameCore.refl s, ha⟩
    fun acc id h => ⟨replayStep_sameCore _ _ acc id s h.1, replayStep_accW s _ _ acc id h.1 h.2⟩).2

theorem store_msgs_mono (s : State) (m : Msg) : ∀ e ∈ s.msgs, e ∈ (store s m).msgs :=
  fun e he => (mem_store_msgs s m e).mpr (Or.inl he)
theorem store_bc_mono (s : State) (m : Msg) : ∀ e ∈ s.bc, e ∈ (store s m).bc :=
  fun e he => (mem_store_bc s m e).mpr (Or.inl he)

theorem AccOk.store {s : State} (m : Msg) (o : AccOk s) : AccOk (store s m) := by
  constructor
  · intro f hf; rw [store_with] at hf
    exact (o.1 f hf).mono (store_msgs_mono s m) (store_bc_mono s m)
  · intro cs hcs f hf; rw [store_with] at hcs
    exact (o.2 cs hcs f hf).mono (store_msgs_mono s m) (store_bc_mono s m)

theorem AccOk.send {s : State} (nx : RoundSpec) (o : AccOk s) : AccOk (sendAll s (emitFor s nx)) := by
  rw [sendAll_eq]
  split
  · exact (o.store _).congr rfl rfl rfl rfl
  · exact o.congr rfl rfl rfl rfl

theorem AccOk.abort {t : State} (k : ErrKind) (hk : ∀ cs, k = .protoAbort cs → ∀ f ∈ cs, f ∈ t.accused) (o : AccOk t) :
    AccOk (abort t (some k)) := by
  refine ⟨fun f hf => (o.1 f hf).mono (fun _ h => h) (fun _ h => h), ?_⟩
  intro cs hcs f hf
  simp only [Handler.abort, Option.some.injEq] at hcs
  exact (o.1 f (hk cs hcs f hf)).mono (fun _ h => h) (fun _ h => h)

theorem AccOk.core {s s' : State} (c : SameCore s s') (a : ∀ f ∈ s'.accused, f ∈ s.accused ∨ AccW s f) (o : AccOk s) :
    AccOk s' := by
  refine ⟨fun f hf => ((a f hf).elim (o.1 f) id).of_sameCore c, fun cs hcs f hf => ?_⟩
  rw [sameCore_iff.mp c] at hcs
  exact (o.2 cs hcs f hf).of_sameCore c

theorem accOk_presC (H : Bytes → Bytes) (sc : Script) : PresC H sc TT AccOk where
  onFill := fun s _ _ _ o => by rw [fillBh_eq H s]; exact o.congr rfl rfl rfl rfl
  onErr := fun s k _ _ hk _ o => o.abort k (fun cs e => by subst e; exact absurd hk id)
  onFinErr := fun t _ _ _ _ _ o => o.abort _ (fun _ e => nomatch e)
  onProtoAbort := fun t cs _ _ _ hpf _ o =>
    AccOk.abort (t := enter0 t) _ (fun _ e _ hf => by
      cases e
      exact (protoFinalize_cases t).2.1 cs hpf ▸ hf)
      (o.congr rfl rfl rfl rfl)
  onOutput := fun t v _ _ _ _ _ o => o.congr rfl rfl rfl rfl
  onSend := fun t i nx _ _ _ _ _ o => o.send nx
  onEnter := fun t i nx _ _ _ _ _ o => o.congr rfl rfl rfl rfl
  onReplay := fun s s5 f _ _ h _ o =>
    o.core (replayed_sameCore h) fun g hg => Or.inr (by have := replayQueued_accW s o.1 g; rw [h] at this; exact this hg)
  onVerify := fun s s' m _ _ iq h _ o => o.core (verified_sameCore h) (verify_accW s s' m iq.stored h)

theorem run_accOk (l : List Msg) : AccOk (run H sc (l.map Call.accept)) :=
  run_presC (accOk_presC H sc) ⟨fun f hf => by simp [state0] at hf, fun cs h => by simp [state0] at h⟩ l
    (fun s m _ _ _ o => o.store m)

/-- where the queue entries come from; `L`: the messages delivered -/
def QOk (sc : Script) (L : List Msg) (s : State) : Prop :=
  (∀ e ∈ s.msgs, e.2.2 ∈ L ∧ hasSlot sc e.2.2.rnd = true ∧ e.2.2.frm ∈ sc.ids) ∧
  (∀ e ∈ s.bc, (e.2.2 ∈ L ∨ (e.2.2 ∈ s.out ∧ e.2.2.frm = sc.self)) ∧ hasSlot sc e.2.2.rnd = true ∧ e.2.2.frm ∈ sc.ids)

theorem QOk.congr {sc : Script} {L : List Msg} {s s' : State} (o : QOk sc L s) (h1 : s'.msgs = s.msgs) (h2 : s'.bc = s.bc)
    (h3 : ∀ m ∈ s.out, m ∈ s'.out) : QOk sc L s' := by
  constructor
  · intro e he; rw [h1] at he; exact o.1 e he
  · intro e he; rw [h2] at he
    obtain ⟨a, b⟩ := o.2 e he
    exact ⟨a.elim Or.inl (fun a => Or.inr ⟨h3 _ a.1, a.2⟩), b⟩

theorem QOk.store {sc : Script} {L : List Msg} {s : State} (o : QOk sc L s) (hsc : s.sc = sc) (m : Msg)
    (hm : m ∈ L) (hf : m.frm ∈ sc.ids) : QOk sc L (Handler.store s m) := by
  have ho : (Handler.store s m).out = s.out := by rw [store_with]
  constructor
  · intro e he
    rcases (mem_store_msgs s m e).mp he with he | ⟨h1, _, _, rfl⟩
    · exact o.1 e he
    · exact ⟨hm, hsc ▸ h1, hf⟩
  · intro e he
    rw [ho]
    rcases (mem_store_bc s m e).mp he with he | ⟨h1, _, _, rfl⟩
    · exact o.2 e he
    · exact ⟨Or.inl hm, hsc ▸ h1, hf⟩

theorem QOk.storeOwn {sc : Script} {L : List Msg} {s : State} (o : QOk sc L s) (hsc : s.sc = sc) (m : Msg)
    (hb : m.bcast = true) (hf : m.frm = sc.self) (hself : sc.self ∈ sc.ids) (ems : List Msg) (hm : m ∈ ems) :
    QOk sc L { Handler.store s m with out := (Handler.store s m).out ++ ems } := by
  constructor
  · intro e he
    rcases (mem_store_msgs s m e).mp he with he | ⟨_, h2, _, _⟩
    · exact o.1 e he
    · rw [hb] at h2; cases h2
  · intro e he
    show (e.2.2 ∈ L ∨ (e.2.2 ∈ (Handler.store s m).out ++ ems ∧ e.2.2.frm = sc.self)) ∧ _
    rw [store_with]
    rcases (mem_store_bc s m e).mp he with he | ⟨h1, _, _, rfl⟩
    · obtain ⟨a, b⟩ := o.2 e he
      exact ⟨a.elim Or.inl (fun a => Or.inr ⟨List.mem_append_left _ a.1, a.2⟩), b⟩
    · exact ⟨Or.inr ⟨List.mem_append_right _ hm, hf⟩, hsc ▸ h1, hf ▸ hself⟩

theorem QOk.abort {sc : Script} {L : List Msg} {t : State} (k : ErrKind) (o : QOk sc L t) : QOk sc L (abort t (some k)) :=
  o.congr rfl rfl (fun _ h => List.mem_append_left _ h)

theorem qOk_presC (H : Bytes → Bytes) (sc : Script) (hself : sc.self ∈ sc.ids) (L : List Msg) :
    PresC H sc TT (QOk sc L) where
  onFill := fun s _ _ _ o => by rw [fillBh_eq H s]; exact o.congr rfl rfl (fun _ h => h)
  onErr := fun s k _ _ _ _ o => o.abort k
  onFinErr := fun t _ _ _ _ _ o => o.abort _
  onProtoAbort := fun t cs _ _ _ _ _ o => QOk.abort (t := enter0 t) _ (o.congr rfl rfl (fun _ h => h))
  onOutput := fun t v _ _ _ _ _ o => o.congr rfl rfl (fun m h => h)
  onSend := fun t i nx r _ _ _ _ o => by
    have hsc := reach_sc H sc _ r
    rw [sendAll_eq]
    split
    · next hb =>
      have hown : ownB t.sc nx.num (bhLookup t.bh (nx.num - 1)) ∈ emitFor t nx := by
        rw [emitFor_eq, ownB_eq]
        exact (mem_emitW _ _ _ _).mpr (Or.inl ⟨hb, rfl⟩)
      exact o.storeOwn hsc _ rfl (by rw [hsc]; rfl) hself _ hown
    · exact o.congr rfl rfl (fun m h => List.mem_append_left _ h)
  onEnter := fun t i nx _ _ _ _ _ o => o.congr rfl rfl (fun m h => h)
  onReplay := fun s s5 f _ _ h _ o => by rw [sameCore_iff.mp (replayed_sameCore h)]; exact o
  onVerify := fun s s' m _ _ _ h _ o => by rw [sameCore_iff.mp (verified_sameCore h)]; exact o

theorem run_qOk (H : Bytes → Bytes) (sc : Script) (hself : sc.self ∈ sc.ids) (l : List Msg) :
    QOk sc l (run H sc (l.map Call.accept)) := by
  refine run_presC (qOk_presC H sc hself l) ⟨by simp [state0], by simp [state0]⟩ l fun s m hm r st o => ?_
  have hsc := reach_sc H sc s r
  exact o.store hsc m hm (hsc ▸ st.known.1)

/-- what was established when the round `sp` was left through the protocol's `Finalize` (`leaving_facts`) -/
def RoundFacts (s : State) (sp : RoundSpec) : Prop :=
  (sp.recvB = true → (bhLookup s.bh sp.num).isSome = true) ∧
  (∀ prev, bhLookup s.bh (sp.num - 1) = some prev →
    (∀ e ∈ s.msgs, e.1 = sp.num → e.2.2.bv.getD [] = prev) ∧ (∀ e ∈ s.bc, e.1 = sp.num → e.2.2.bv.getD [] = prev)) ∧
  (sp.recvP = true → ∀ id ∈ others s.sc, (lookup s.msgs sp.num id).isSome = true)

theorem past_iff_lt {s : State} (l : Live s) (n : Nat) : pastRound s n = true ↔ n < s.cur := by
  simp [pastRound, l.2.2]

def Hist (s : State) : Prop := ∀ j sp, 1 ≤ j → s.sc.rounds[j]? = some sp → pastRound s sp.num = true → RoundFacts s sp

theorem RoundFacts.congr {s s' : State} {sp : RoundSpec} (f : RoundFacts s sp) (h1 : s'.bh = s.bh)
    (h2 : s'.msgs = s.msgs) (h3 : s'.bc = s.bc) (h4 : s'.sc = s.sc) : RoundFacts s' sp := by
  unfold RoundFacts
  rw [h1, h2, h3, h4]
  exact f

theorem fillBh_lookup_ne (H : Bytes → Bytes) (s : State) (r : Nat) (h : r ≠ s.cur) :
    bhLookup (fillBh H s).bh r = bhLookup s.bh r := by
  rw [bhLookup_fillBh, show (s.cur == r) = false from beq_false_of_ne (Ne.symm h)]
  simp

theorem RoundFacts.fill {s : State} {sp : RoundSpec} (H : Bytes → Bytes) (f : RoundFacts s sp) (hlt : sp.num < s.cur) :
    RoundFacts (fillBh H s) sp := by
  have e := fillBh_eq H s
  refine ⟨?_, ?_, ?_⟩
  · intro hb
    obtain ⟨x, hx⟩ := Option.isSome_iff_exists.mp (f.1 hb)
    rw [bhLookup_mono_fill H s _ x hx]; rfl
  · intro prev hp
    rw [fillBh_lookup_ne H s _ (by omega)] at hp
    have := f.2.1 prev hp
    rw [e]; exact this
  · have := f.2.2
    rw [e]; exact this

theorem RoundFacts.store {s : State} {sp : RoundSpec} (f : RoundFacts s sp) (m : Msg) (hne : m.rnd ≠ sp.num) :
    RoundFacts (Handler.store s m) sp := by
  refine ⟨?_, ?_, ?_⟩
  · rw [store_bh]; exact f.1
  · intro prev hp
    rw [store_bh] at hp
    obtain ⟨a, b⟩ := f.2.1 prev hp
    constructor
    · intro e he hr
      rcases (mem_store_msgs s m e).mp he with he | ⟨_, _, _, rfl⟩
      · exact a e he hr
      · exact absurd hr hne
    · intro e he hr
      rcases (mem_store_bc s m e).mp he with he | ⟨_, _, _, rfl⟩
      · exact b e he hr
      · exact absurd hr hne
  · intro hp id hid
    rw [store_sc] at hid
    rw [lookup_store_msgs']
    obtain ⟨x, hx⟩ := Option.isSome_iff_exists.mp (f.2.2 hp id hid)
    rw [hx]; rfl

theorem RoundFacts.send {s : State} {sp : RoundSpec} (f : RoundFacts s sp) (nx : RoundSpec) (hne : nx.num ≠ sp.num) :
    RoundFacts (sendAll s (emitFor s nx)) sp := by
  rw [sendAll_eq]
  split
  · exact (f.store _ (by exact hne)).congr rfl rfl rfl rfl
  · exact f.congr rfl rfl rfl rfl

theorem leaving_facts (ok : SessionOk sc) (t : State) (r : Reach H sc t) (l : Live t) (c : CurPos t)
    (lv : Leaving H t) (h1 : 1 ≤ t.idx) {sp : RoundSpec} (hsp : sc.rounds[t.idx]? = some sp) : RoundFacts t sp := by
  obtain ⟨spec, hs1, hs2, hs3⟩ := reach_curSpec t r l c
  rw [hsp] at hs1
  cases hs1
  have hslot : hasSlot t.sc t.cur = true := by rw [reach_sc H sc t r, ← hs2]; exact hasSlot_round ok _ sp h1 hsp
  refine ⟨fun hb => ?_, fun prev hp => ?_, fun hp id hid => ?_⟩
  · rw [hs2]
    exact lv.filled (by rw [hs3, hb, hslot]; rfl)
  · rw [hs2] at hp ⊢
    exact check_passes_imp_bv _ prev hp lv.check
  · rw [hs2]
    exact (receivedAllB_true lv.recv hslot).2 (hs3 ▸ hp) id hid

theorem Hist.of_sameCore {s s' : State} (c : SameCore s s') (o : Hist s) : Hist s' := by
  rw [sameCore_iff.mp c]; exact o

theorem hist_presC (H : Bytes → Bytes) (sc : Script) (ok : SessionOk sc) : PresC H sc CurPos Hist where
  onFill := fun s r l c o j sp hj hsp hp => by
    have hsp' : s.sc.rounds[j]? = some sp := by rw [fillBh_eq H s] at hsp; exact hsp
    have hlt : sp.num < s.cur := fillBh_cur H s ▸ (past_iff_lt (l.of_sameLife (fillBh_sameLife H s)) _).mp hp
    exact (o j sp hj hsp' ((past_iff_lt l _).mpr hlt)).fill H hlt
  onErr := fun s k _ _ _ _ o => o
  onFinErr := fun t _ _ _ _ _ o => o
  onProtoAbort := fun t cs _ l _ _ _ _ j sp _ _ hp => by
    -- an aborted handler is in round 0: it is past no round
    have hp' : (t.result.isSome || decide (sp.num < 0)) = true := hp
    rw [l.2.2] at hp'
    simp at hp'
  onOutput := fun t v r l lv hpf c o j sp hj hsp _ => by
    -- the round just left is the last one: every round is past
    obtain ⟨spec, hs1, hs2, _⟩ := reach_curSpec t r l c
    have hsp' : t.sc.rounds[j]? = some sp := hsp
    have hlast := (protoFinalize_cases t).2.2 v hpf
    show RoundFacts t sp
    rw [reach_sc H sc _ r] at hsp' hlast
    have hle : j ≤ t.idx := by
      have := (List.getElem?_eq_some_iff.mp hsp').1
      have := List.getElem?_eq_none_iff.mp hlast
      omega
    rcases Nat.lt_or_eq_of_le hle with g | g
    · exact o j sp hj hsp ((past_iff_lt l _).mpr (hs2 ▸ ok.script.num_lt hsp' hs1 g))
    · exact leaving_facts ok t r l c lv (g ▸ hj) (g ▸ hsp')
  onSend := fun t i nx r l lv hpf c o j sp hj hsp hp => by
    obtain ⟨_, _, hlt⟩ := reach_next ok.script t r l c i nx hpf
    rw [sendAll_sc] at hsp
    have hnum : sp.num < t.cur := sendAll_cur t _ ▸ (past_iff_lt (sendAll_live _ (emitFor t nx) l) _).mp hp
    exact (o j sp hj hsp ((past_iff_lt l _).mpr hnum)).send nx (by omega)
  onEnter := fun t i nx r l lv hpf c o j sp hj hsp hp => by
    have l3 := sendAll_live _ (emitFor t nx) l
    have c' : CurPos t := fun _ => sendAll_cur t _ ▸ c l3
    obtain ⟨_, hn, hlt⟩ := reach_next ok.script t r l c' i nx hpf
    obtain ⟨spec, hs1, hs2, _⟩ := reach_curSpec t r l c'
    have hsp' : (sendAll t (emitFor t nx)).sc.rounds[j]? = some sp := hsp
    have hnum : sp.num < nx.num := (past_iff_lt (l3.of_sameLife (enter_sameLife _ i nx)) _).mp hp
    show RoundFacts (sendAll t (emitFor t nx)) sp
    by_cases g : sp.num < t.cur
    · exact o j sp hj hsp' ((past_iff_lt l3 _).mpr (by rw [sendAll_cur]; exact g))
    · -- the round just left: its facts, established before the messages of the next round were sent
      rw [sendAll_sc, reach_sc H sc _ r] at hsp'
      have hj' : j = t.idx := ok.script.between hs1 hn hsp' (by omega) hnum
      subst hj'
      exact (leaving_facts ok t r l c' lv hj hsp').send nx (by omega)
  onReplay := fun _ _ _ _ _ h _ o => o.of_sameCore (replayed_sameCore h)
  onVerify := fun _ _ _ _ _ _ h _ o => o.of_sameCore (verified_sameCore h)

theorem Hist.store {s : State} (o : Hist s) (m : Msg) (st : Storing s m) : Hist (Handler.store s m) := by
  intro j sp hj hsp hp
  rw [store_sc] at hsp
  have hlt : sp.num < s.cur :=
    (store_idx s m).2 ▸ (past_iff_lt (st.live.of_sameLife (store_sameLife s m)) _).mp hp
  have := st.known.2
  exact (o j sp hj hsp ((past_iff_lt st.live _).mpr hlt)).store m (by omega)

theorem run_hist (ok : SessionOk sc) (l : List Msg) : Hist (run H sc (l.map Call.accept)) :=
  run_presC_pos ok (hist_presC H sc ok)
    (fun j sp hj hsp hp => by
      -- the first round has number 1, the others a larger one
      have := (past_iff_lt ⟨rfl, rfl, rfl⟩ _).mp hp
      rw [ok.script.state0.1] at this
      have := round_ge_two ok.script j sp hj hsp
      omega)
    (fun s m _ st _ o => o.store m st) l

theorem Hist.stamped {s : State} (r : Reach H sc s) (hh : Hist s) {j : Nat} {sp nx : RoundSpec} (hj : 1 ≤ j)
    (hsp : sc.rounds[j]? = some sp) (hnx : sc.rounds[j + 1]? = some nx) (hnum : nx.num = sp.num + 1)
    (hB : sp.recvB = true) (hK : nx.recvB = true ∨ nx.recvP = true) (hpast : pastRound s nx.num = true)
    {q : Bytes} (hq : q ∈ sc.ids) (hne : q ≠ sc.self) :
    ∃ h mq, bhLookup s.bh sp.num = some h ∧ Stored s mq ∧ mq.frm = q ∧ mq.rnd = nx.num ∧ mq.bv.getD [] = h := by
  have hsc := reach_sc H sc s r
  have qk := reach_queueKeys s r
  have fnx := hh (j + 1) nx (by omega) (hsc ▸ hnx) hpast
  have fsp := hh j sp hj (hsc ▸ hsp) (by
    simp only [pastRound, Bool.or_eq_true, decide_eq_true_eq] at hpast ⊢
    exact hpast.imp_right fun h => by omega)
  obtain ⟨h, hbh⟩ := Option.isSome_iff_exists.mp (fsp.1 hB)
  have hstamp := fnx.2.1 h (by rw [hnum]; simpa using hbh)
  refine ⟨h, ?_⟩
  rcases hK with hb | hp
  · -- `nx` takes broadcasts: its echo hash is in the table, so all its broadcasts are in the queue
    obtain ⟨y, hy⟩ := Option.isSome_iff_exists.mp (fnx.1 hb)
    obtain ⟨mq, hmq⟩ := Option.isSome_iff_exists.mp ((echoHash_some H _ _ _ y (reach_bhOk H _ _ r _ _ hy)).1 q (hsc ▸ hq))
    obtain ⟨e, he, rfl, h1, h2⟩ := lookup_keys _ _ _ _ hmq
    have k := qk.2 e he
    exact ⟨e.2.2, hbh, Or.inr ⟨e, he, rfl⟩, by rw [← k.2.1, h2], by rw [← k.1, h1], hstamp.2 e he h1⟩
  · obtain ⟨mq, hmq⟩ := Option.isSome_iff_exists.mp (fnx.2.2 hp q (by rw [hsc]; exact mem_others.mpr ⟨hq, hne⟩))
    obtain ⟨e, he, rfl, h1, h2⟩ := lookup_keys _ _ _ _ hmq
    have k := qk.1 e he
    exact ⟨e.2.2, hbh, Or.inl ⟨e, he, rfl⟩, by rw [← k.2.1, h2], by rw [← k.1, h1], hstamp.1 e he h1⟩

theorem run_peerAbort (l : List Msg) (f : Bytes) (h : (run H sc (l.map Call.accept)).err = some (.peerAbort f)) :
    ∃ m ∈ l, m.rnd = 0 ∧ m.frm = f :=
  run_accepts l (P := fun s => s.err = some (.peerAbort f) → ∃ m ∈ l, m.rnd = 0 ∧ m.frm = f)
    (fun h => by unfold init at h; exact absurd h (finalize_noPeerAbort H _ _ ⟨rfl, rfl, rfl⟩ f))
    (fun s m hm _ lv _ he => ⟨m, hm, accept_peerAbort H s m lv f he⟩) h

end

end Mps.Handler
