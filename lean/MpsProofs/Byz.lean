import MpsProofs.AnyRun
import Mps.Byz
/-
  A session with one deviating participant (C04 / C06 at system level): what is delivered under an honest name was
  emitted; whom an honest party can blame; agreement of the honest parties' views. The state of every honest party is
  its handler run on what was delivered to it (`run_apply`), so the facts about one handler fed with anything
  (MpsProofs/AnyRun.lean) apply (`party_run`). Core-only.
-/
namespace Mps.System
open Mps Mps.Handler

theorem mem_honestIds {base : Script} {x p : Bytes} : p ∈ honestIds base x ↔ p ∈ base.ids ∧ p ≠ x := by
  unfold honestIds
  simp

theorem sessionOk_for {base : Script} (ok : SessionOk base) (p : Bytes) : SessionOk (scriptFor base p) :=
  ⟨scriptOk_for ok.script p, ok.noEmptyId, ok.inRange, ok.twoParties, ok.noFinErr⟩

theorem byzCanDeliver_iff (base : Script) (x : Bytes) (σ : Sys) (p : Bytes) (m : Msg) :
    σ.byzCanDeliver base x p m = true ↔
      p ∈ honestIds base x ∧ (m.frm = x ∨ (m.frm ∈ honestIds base x ∧ isFor m p = true ∧ m ∈ (σ m.frm).out)) := by
  unfold Sys.byzCanDeliver
  simp only [Bool.and_eq_true, Bool.or_eq_true, List.contains_iff_mem, beq_iff_eq, and_assoc]

theorem byzCanDeliver_mono (H : Bytes → Bytes) (base : Script) (x : Bytes) (σ : Sys) (q : Bytes) (y : Msg) (p : Bytes)
    (m : Msg) (h : σ.byzCanDeliver base x p m = true) : (σ.deliver H q y).byzCanDeliver base x p m = true := by
  rw [byzCanDeliver_iff] at h ⊢
  exact ⟨h.1, h.2.imp id fun h => ⟨h.1, h.2.1, deliver_out_mono H σ q _ y m h.2.2⟩⟩

theorem byz_delivered (H : Bytes → Bytes) (base : Script) (x : Bytes) (sched : Sched) (p : Bytes) :
    ∀ σ : Sys, byzCausalFrom H base x σ sched = true →
      ∀ m ∈ delivered sched p, p ∈ honestIds base x ∧
        (m.frm = x ∨ (m.frm ∈ honestIds base x ∧ isFor m p = true ∧ m ∈ ((σ.runFrom H sched) m.frm).out)) :=
  fun σ hc m hm => (byzCanDeliver_iff base x _ p m).mp
    (delivered_still H _ (byzCanDeliver_mono H base x) _ (fun _ _ _ => rfl) sched p σ hc m hm)

section
variable {H : Bytes → Bytes} {base : Script} {x : Bytes}

theorem party_run {P : State → Prop} {p : Bytes}
    (h : ∀ l : List Msg, P (Handler.run H (scriptFor base p) (l.map Call.accept))) (sched : Sched) :
    P ((Sys.run H base sched) p) :=
  run_apply H base sched p ▸ h _

theorem stored_origin (sched : Sched) (p : Bytes) (hp : p ∈ base.ids) (m : Msg)
    (hs : Stored ((Sys.run H base sched) p) m) :
    (m ∈ delivered sched p ∨ (m ∈ ((Sys.run H base sched) p).out ∧ m.frm = p)) ∧
    hasSlot base m.rnd = true ∧ m.frm ∈ base.ids := by
  have qo := run_qOk H (scriptFor base p) hp (delivered sched p)
  rw [← run_apply] at qo
  rcases hs with ⟨e, he, rfl⟩ | ⟨e, he, rfl⟩
  · exact ⟨Or.inl (qo.1 e he).1, (qo.1 e he).2⟩
  · exact qo.2 e he

/-- C06 `stored_under_honest_name_was_emitted` -/
theorem stored_honest_emitted (sched : Sched) (hc : ByzCausal H base x sched = true) (p q : Bytes)
    (hp : p ∈ honestIds base x) (hq : q ∈ honestIds base x) (m : Msg) (hs : Stored ((Sys.run H base sched) p) m)
    (hf : m.frm = q) : m ∈ ((Sys.run H base sched) q).out := by
  rcases (stored_origin sched p (mem_honestIds.mp hp).1 m hs).1 with hd | ⟨ho, hfp⟩
  · obtain ⟨_, hk⟩ := byz_delivered H base x sched p _ hc m hd
    rcases hk with hk | ⟨_, _, hk⟩
    · exact absurd (hf ▸ hk) (mem_honestIds.mp hq).2
    · exact hf ▸ hk
  · rw [hf] at hfp; subst hfp; exact ho

theorem stored_slot (sched : Sched) (p : Bytes) (hp : p ∈ base.ids) (m : Msg)
    (hs : Stored ((Sys.run H base sched) p) m) : hasSlot base m.rnd = true ∧ m.frm ∈ base.ids :=
  (stored_origin sched p hp m hs).2

/-- C04 `honest_emissions` -/
theorem honest_out (ok : SessionOk base) (sched : Sched) (q : Bytes) (m : Msg)
    (hm : m ∈ ((Sys.run H base sched) q).out) :
    (m.rnd = 0 ∧ ((Sys.run H base sched) q).err.isSome = true ∧ m = noticeOf (scriptFor base q)) ∨
    (∃ s' nx i, 1 ≤ i ∧ base.rounds[i]? = some nx ∧ 2 ≤ nx.num ∧ m ∈ emitFor s' nx ∧ s'.sc = scriptFor base q) := by
  have o : OutShape H (scriptFor base q) ((Sys.run H base sched) q) :=
    party_run (run_outShape (sessionOk_for ok q)) sched
  rcases o m hm with h | ⟨s', nx, hs, hmem⟩
  · rw [run_sc_party H base sched q] at h; exact Or.inl h
  · obtain ⟨i, hi, hnx, hs'⟩ := hs.round
    exact Or.inr ⟨s', nx, i, hi, hnx, round_ge_two ok.script i nx hi hnx, hmem, hs'⟩

/-- C04 `honest_never_named_directly`, message failures -/
theorem honest_not_msgFail (ok : SessionOk base) (sched : Sched) (hc : ByzCausal H base x sched = true) (p q : Bytes)
    (hp : p ∈ honestIds base x) (hq : q ∈ honestIds base x) :
    ((Sys.run H base sched) p).err ≠ some (.msgFail q) := by
  intro he
  have hpi := (mem_honestIds.mp hp).1
  -- the verdict rests on a stored message under `q`'s name that deviates in `p`'s round; `q` has emitted it, and
  -- what the script emits for a round does not deviate in that round
  have b : BlameOk ((Sys.run H base sched) p) := party_run (fun _ => blameOk_run H _ _) sched
  obtain ⟨m, hst, hf, hr, hd⟩ := b q he
  have hout := stored_honest_emitted sched hc p q hp hq m hst hf
  have hslot := (stored_slot sched p hpi m hst).1
  have h2 := (hasSlot_iff.mp hslot).1
  rcases honest_out ok sched q m hout with ⟨h0, _⟩ | ⟨s', nx, i, hi, hnx, _, hmem, _⟩
  · omega
  · have hsc := run_sc_party H base sched p
    exact deviates_not_emitted _ s' (reach_idxOk _ (run_reach_party H base sched p)) (by omega)
      (hsc ▸ ok.script.nums_nodup) m hr hd nx (hsc ▸ List.mem_of_getElem? hnx) hmem

/-- C04 `honest_never_named_directly`, protocol aborts -/
theorem honest_not_accused (ok : SessionOk base) (sched : Sched) (hc : ByzCausal H base x sched = true) (p q : Bytes)
    (hp : p ∈ honestIds base x) (hq : q ∈ honestIds base x) (cs : List Bytes)
    (he : ((Sys.run H base sched) p).err = some (.protoAbort cs)) : q ∉ cs := by
  intro hmem
  have a : AccOk ((Sys.run H base sched) p) := party_run run_accOk sched
  obtain ⟨m, hst, hf, c, hc1, hc2⟩ := a.2 cs he q hmem
  have hout := stored_honest_emitted sched hc p q hp hq m hst hf
  rcases honest_out ok sched q m hout with ⟨_, _, h3⟩ | ⟨s', nx, i, _, _, _, hm, _⟩
  · rw [h3] at hc1; cases hc1
  · obtain ⟨_, _, _, ⟨c', h1, h2⟩, _⟩ := emitFor_fields s' nx m hm
    rw [hc1] at h1; cases h1
    rw [h2, hasFlag_zero] at hc2; cases hc2

/-- C04 `honest_never_named_directly`, relayed notices -/
theorem honest_peerAbort (ok : SessionOk base) (sched : Sched) (hc : ByzCausal H base x sched = true) (p f : Bytes)
    (he : ((Sys.run H base sched) p).err = some (.peerAbort f)) :
    f = x ∨ (f ∈ honestIds base x ∧ f ≠ p ∧ noticeOf (scriptFor base f) ∈ ((Sys.run H base sched) f).out ∧
      ((Sys.run H base sched) f).err.isSome = true) := by
  rw [run_apply] at he
  obtain ⟨m, hm, h0, hf⟩ := run_peerAbort _ f he
  obtain ⟨_, hk⟩ := byz_delivered H base x sched p _ hc m hm
  rcases hk with hk | ⟨h1, h2, h3⟩
  · exact Or.inl (hf ▸ hk)
  · right
    rw [hf] at h1 h3
    have hne : f ≠ p := fun e => ((isFor_iff m p).mp h2).1 (hf.trans e)
    rcases honest_out ok sched f m h3 with ⟨_, h5, h6⟩ | ⟨s', nx, i, _, _, h2', hmem, _⟩
    · exact ⟨h1, hne, h6 ▸ h3, h5⟩
    · have := (emitFor_fields s' nx m hmem).1
      omega

/-- C04 `relayed_notice_chain` -/
theorem honest_error_kinds (ok : SessionOk base) (sched : Sched) (hc : ByzCausal H base x sched = true) (p : Bytes)
    (hp : p ∈ honestIds base x) (e : ErrKind) (he : ((Sys.run H base sched) p).err = some e) :
    primaryErr x e = true ∨
    ∃ q ∈ honestIds base x, q ≠ p ∧ e = .peerAbort q ∧ noticeOf (scriptFor base q) ∈ ((Sys.run H base sched) q).out ∧
      ((Sys.run H base sched) q).err.isSome = true := by
  have hpi := (mem_honestIds.mp hp).1
  have notHonest : ∀ f, f ∈ base.ids → f ∉ honestIds base x → f = x := fun f hf hn =>
    Decidable.of_not_not fun hne => hn (mem_honestIds.mpr ⟨hf, hne⟩)
  have noSelf : NoSelfErr ((Sys.run H base sched) p) := party_run (run_noSelfErr (sessionOk_for ok p)) sched
  cases e with
  | msgFail f =>
    left
    have b : BlameOk ((Sys.run H base sched) p) := party_run (fun _ => blameOk_run H _ _) sched
    obtain ⟨m, hst, hf, _, _⟩ := b f he
    have hfi := (stored_slot sched p hpi m hst).2
    rw [hf] at hfi
    have := notHonest f hfi (fun hq => honest_not_msgFail ok sched hc p f hp hq he)
    simp [primaryErr, this]
  | peerAbort f =>
    rcases honest_peerAbort ok sched hc p f he with h | ⟨h1, h2, h3, h4⟩
    · left; simp [primaryErr, h]
    · exact Or.inr ⟨f, h1, h2, rfl, h3, h4⟩
  | echoMismatch => left; rfl
  | finalizeErr => exact absurd he noSelf.1
  | stopped => exact absurd he noSelf.2
  | protoAbort cs =>
    left
    have a : AccOk ((Sys.run H base sched) p) := party_run run_accOk sched
    simp only [primaryErr, List.all_eq_true, beq_iff_eq]
    intro f hf
    obtain ⟨m, hst, hfm, _⟩ := a.2 cs he f hf
    have hfi := (stored_slot sched p hpi m hst).2
    rw [hfm] at hfi
    exact notHonest f hfi (fun hq => honest_not_accused ok sched hc p f hp hq cs he hf)

theorem byzCausalFrom_append (H : Bytes → Bytes) (base : Script) (x : Bytes) (s1 s2 : Sched) :
    ∀ σ : Sys, byzCausalFrom H base x σ (s1 ++ s2) =
      (byzCausalFrom H base x σ s1 && byzCausalFrom H base x (σ.runFrom H s1) s2) := by
  induction s1 with
  | nil => intro σ; simp [byzCausalFrom, Sys.runFrom]
  | cons e rest ih =>
    intro σ
    simp only [List.cons_append, byzCausalFrom, ih, Bool.and_assoc]
    rfl

theorem run_snoc_sys (H : Bytes → Bytes) (base : Script) (pre : Sched) (e : Bytes × Msg) :
    Sys.run H base (pre ++ [e]) = (Sys.run H base pre).deliver H e.1 e.2 := by
  unfold Sys.run Sys.runFrom
  rw [List.foldl_append]; rfl

theorem deliver_err_keep (H : Bytes → Bytes) (σ : Sys) (p : Bytes) (m : Msg) (q : Bytes) (e : ErrKind)
    (h : (σ q).err = some e) : ((σ.deliver H p m) q).err = some e := by
  by_cases hq : q = p
  · subst hq
    rw [deliver_self, accept_terminal H _ _ (by simp [terminal, h])]; exact h
  · rw [deliver_other H σ p q m hq]; exact h

/-- C04 `abort_root_cause` -/
theorem abort_root (ok : SessionOk base) : ∀ sched : Sched, ByzCausal H base x sched = true →
    (∃ p ∈ honestIds base x, ((Sys.run H base sched) p).err.isSome = true) →
    ∃ p ∈ honestIds base x, ∃ e, ((Sys.run H base sched) p).err = some e ∧ primaryErr x e = true := by
  intro sched
  induction sched using snoc_induction with
  | nil =>
    intro _ ⟨p, hp, he⟩
    exfalso
    rw [no_honest_abort (H := H) ok [] rfl p (mem_honestIds.mp hp).1] at he
    cases he
  | snoc pre a ih =>
    -- the last delivery gives its recipient an error that is primary or relays the notice of a party that had aborted
    -- before; every other error was there before
    intro hc ⟨p, hp, he⟩
    have hc' : ByzCausal H base x pre = true := by
      unfold ByzCausal at hc ⊢
      rw [byzCausalFrom_append] at hc
      simp only [Bool.and_eq_true] at hc
      exact hc.1
    have keep : (∃ p ∈ honestIds base x, ((Sys.run H base pre) p).err.isSome = true) →
        ∃ p ∈ honestIds base x, ∃ e, ((Sys.run H base (pre ++ [a])) p).err = some e ∧ primaryErr x e = true := by
      intro h
      obtain ⟨p', hp', e', he', hpr⟩ := ih hc' h
      exact ⟨p', hp', e', by rw [run_snoc_sys]; exact deliver_err_keep H _ _ _ _ _ he', hpr⟩
    obtain ⟨e, he⟩ := Option.isSome_iff_exists.mp he
    by_cases hpa : p = a.1
    · rcases honest_error_kinds ok _ hc p hp e he with h | ⟨q, hq, hqp, _, _, hqe⟩
      · exact ⟨p, hp, e, he, h⟩
      · apply keep
        refine ⟨q, hq, ?_⟩
        rw [run_snoc_sys, deliver_other H _ _ _ _ (by rw [← hpa]; exact hqp)] at hqe
        exact hqe
    · apply keep
      refine ⟨p, hp, ?_⟩
      rw [run_snoc_sys, deliver_other H _ _ _ _ hpa] at he
      rw [he]; rfl

/-- C06 `honest_views_agree`, with the wire format of the stored broadcasts (`wfp`, `wfq`) as hypotheses -/
theorem view_agreement (hH : ∀ b, (H b).length < 2 ^ 64) (ok : SessionOk base) (hsw : ∀ i ∈ base.sess, i.WF)
    (sched : Sched) (hc : ByzCausal H base x sched = true) (p q : Bytes) (hp : p ∈ honestIds base x)
    (hq : q ∈ honestIds base x) (hpq : p ≠ q) (j : Nat) (sp nx : RoundSpec) (hj : 1 ≤ j)
    (hsp : base.rounds[j]? = some sp) (hnx : base.rounds[j + 1]? = some nx) (hnum : nx.num = sp.num + 1)
    (hB : sp.recvB = true) (hK : nx.recvB = true ∨ nx.recvP = true)
    (hpast : pastRound ((Sys.run H base sched) p) nx.num = true)
    (wfp : ∀ e ∈ ((Sys.run H base sched) p).bc, MsgOk e.2.2) (wfq : ∀ e ∈ ((Sys.run H base sched) q).bc, MsgOk e.2.2) :
    (∀ id ∈ base.ids, ∃ mp mq, lookup ((Sys.run H base sched) p).bc sp.num id = some mp ∧
        lookup ((Sys.run H base sched) q).bc sp.num id = some mq ∧ wire mp = wire mq) ∨
    EchoCollision H base ((Sys.run H base sched) p).bc ((Sys.run H base sched) q).bc sp.num := by
  have rp := run_reach_party H base sched p
  have rq := run_reach_party H base sched q
  have hscq := reach_sc H _ _ rq
  -- `q`'s message of round `nx` in `p`'s queue, stamped with `p`'s hash of its view of round `sp`
  have hh : Hist ((Sys.run H base sched) p) := party_run (run_hist (sessionOk_for ok p)) sched
  obtain ⟨h, mq, hbhP, hst, hfrm, hrnd, hbv⟩ :=
    hh.stamped rp hj hsp hnx hnum hB hK hpast (mem_honestIds.mp hq).1 (fun e => hpq e.symm)
  -- it is `q`'s own, stamped with `q`'s hash of its view of round `sp`
  have hout := stored_honest_emitted sched hc p q hp hq mq hst hfrm
  have bs : BvSome ((Sys.run H base sched) q) := party_run (run_bvSome (sessionOk_for ok q)) sched
  obtain ⟨hQ, hbvq⟩ := Option.isSome_iff_exists.mp (bs mq hout j sp hj (by rw [hscq]; exact hsp) hB (by rw [hrnd, hnum]))
  have hbhQ := reach_outBv H _ _ rq mq hout hQ hbvq
  rw [hrnd, hnum, Nat.add_sub_cancel] at hbhQ
  have heq : hQ = h := by rw [hbvq] at hbv; exact hbv
  subst heq
  -- both hashes are hashes of the stored views
  have eP := reach_bhOk H _ _ rp _ _ hbhP
  have eQ := reach_bhOk H _ _ rq _ _ hbhQ
  rw [reach_sc H _ _ rp, echoHash_script_congr H (scriptFor base p) base _ _ rfl rfl] at eP
  rw [hscq, echoHash_script_congr H (scriptFor base q) base _ _ rfl rfl] at eQ
  exact echoHash_agree_or H hH base _ _ sp.num hQ hsw wfp wfq eP eQ

/-- lengths and numbers of the common script fit the 8-byte fields of the wire format -/
structure SizesOk (base : Script) : Prop where
  ssid : base.ssid.length < 2 ^ 64
  proto : base.proto.length < 2 ^ 64
  ids : ∀ id ∈ base.ids, id.length < 2 ^ 64
  final : base.final < 256 ^ 8

instance (base : Script) : Decidable (SizesOk base) :=
  decidable_of_iff (base.ssid.length < 2 ^ 64 ∧ base.proto.length < 2 ^ 64 ∧ (∀ id ∈ base.ids, id.length < 2 ^ 64) ∧
      base.final < 256 ^ 8)
    ⟨fun h => ⟨h.1, h.2.1, h.2.2.1, h.2.2.2⟩, fun h => ⟨h.1, h.2, h.3, h.4⟩⟩

theorem honest_out_msgOk (hH : ∀ b, (H b).length < 2 ^ 64) (ok : SessionOk base) (sz : SizesOk base) (sched : Sched)
    (q : Bytes) (hq : q ∈ base.ids) (m : Msg) (hm : m ∈ ((Sys.run H base sched) q).out) : MsgOk m := by
  have rq := run_reach_party H base sched q
  have hsc := reach_sc H _ _ rq
  have oo : OutOk ((Sys.run H base sched) q) := party_run (fun _ => run_outOk H _ _) sched
  obtain ⟨h1, h2, h3⟩ := oo m hm
  rw [hsc] at h1 h2 h3
  have hbv : ∀ b, m.bv = some b → b.length < 2 ^ 64 := by
    intro b hb
    have := reach_bhOk H _ _ rq _ _ (reach_outBv H _ _ rq m hm b hb)
    rw [(echoHash_some H _ _ _ _ this).2]
    exact hH _
  have hfrm : m.frm ≠ [] := by
    rw [h3]; intro e
    exact ok.noEmptyId (by rw [← e]; exact hq)
  have hk : m.rnd < 256 ^ 8 ∧ m.to.length < 2 ^ 64 ∧ ∀ b, m.data = some b → b.length < 2 ^ 64 := by
    rcases honest_out ok sched q m hm with ⟨_, _, h0⟩ | ⟨s', nx, i, _, hnx, _, hmem, hs'⟩
    · subst h0
      exact ⟨by show 0 < 256 ^ 8; decide, by show ([] : Bytes).length < 2 ^ 64; decide, fun b hb => by cases hb; decide⟩
    · refine ⟨?_, ?_, fun b hb => ?_⟩
      · rw [(emitFor_fields s' nx m hmem).1]
        exact Nat.lt_of_le_of_lt (ok.inRange nx (List.mem_of_getElem? hnx)) sz.final
      · rcases (emitFor_wire s' nx m hmem).1 with h | h
        · rw [h]; decide
        · rw [hs'] at h; exact sz.ids _ h
      · obtain ⟨c, hc⟩ := (emitFor_wire s' nx m hmem).2
        rw [hc] at hb; cases hb
        exact cborContent_length c
  exact msgOk_of m hfrm hk.1 (fun b hb => by rw [h1] at hb; cases hb; exact sz.ssid) (by rw [h3]; exact sz.ids q hq) hk.2.1
    (by rw [h2]; exact sz.proto) hk.2.2 hbv

theorem stored_msgOk (hH : ∀ b, (H b).length < 2 ^ 64) (ok : SessionOk base) (sz : SizesOk base) (sched : Sched)
    (hc : ByzCausal H base x sched = true) (hadv : ∀ e ∈ sched, e.2.frm = x → MsgOk e.2) (p : Bytes)
    (hp : p ∈ honestIds base x) : ∀ e ∈ ((Sys.run H base sched) p).bc, MsgOk e.2.2 := by
  intro e he
  have hpi := (mem_honestIds.mp hp).1
  rcases (stored_origin sched p hpi e.2.2 (Or.inr ⟨e, he, rfl⟩)).1 with hd | ⟨ho, _⟩
  · obtain ⟨_, hk⟩ := byz_delivered H base x sched p _ hc _ hd
    rcases hk with hk | ⟨h1, _, h3⟩
    · exact hadv (p, e.2.2) (mem_delivered sched p _ hd) hk
    · exact honest_out_msgOk hH ok sz sched _ (mem_honestIds.mp h1).1 _ h3
  · exact honest_out_msgOk hH ok sz sched p hpi _ ho

theorem wire_items (m m' : Msg) (h : wire m = wire m') : msgHashItems m = msgHashItems m' ∧ m.data = m'.data := by
  obtain ⟨ssid, frm, to, proto, rnd, data, bcast, bv, dec⟩ := m
  obtain ⟨ssid', frm', to', proto', rnd', data', bcast', bv', dec'⟩ := m'
  simp only [wire, Prod.mk.injEq] at h
  obtain ⟨rfl, rfl, rfl, rfl, rfl, rfl, rfl, rfl⟩ := h
  exact ⟨rfl, rfl⟩

/-- C06 `honest_views_agree` -/
theorem honest_views_agree (hH : ∀ b, (H b).length < 2 ^ 64) (ok : SessionOk base) (sz : SizesOk base)
    (hsw : ∀ i ∈ base.sess, i.WF) (sched : Sched) (hc : ByzCausal H base x sched = true)
    (hadv : ∀ e ∈ sched, e.2.frm = x → MsgOk e.2) (p q : Bytes) (hp : p ∈ honestIds base x)
    (hq : q ∈ honestIds base x) (hpq : p ≠ q) (j : Nat) (sp nx : RoundSpec) (hj : 1 ≤ j)
    (hsp : base.rounds[j]? = some sp) (hnx : base.rounds[j + 1]? = some nx) (hnum : nx.num = sp.num + 1)
    (hB : sp.recvB = true) (hK : nx.recvB = true ∨ nx.recvP = true)
    (hpast : pastRound ((Sys.run H base sched) p) nx.num = true) :
    (∀ id ∈ base.ids, ∃ mp mq, lookup ((Sys.run H base sched) p).bc sp.num id = some mp ∧
        lookup ((Sys.run H base sched) q).bc sp.num id = some mq ∧ wire mp = wire mq) ∨
    (∃ a b : Bytes, a ≠ b ∧ H a = H b) :=
  (view_agreement hH ok hsw sched hc p q hp hq hpq j sp nx hj hsp hnx hnum hB hK hpast
    (stored_msgOk hH ok sz sched hc hadv p hp) (stored_msgOk hH ok sz sched hc hadv q hq)).imp_right EchoCollision.collision

end

end Mps.System
