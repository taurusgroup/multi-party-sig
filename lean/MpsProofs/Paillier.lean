import MpsProofs.PaillierArith
import Mathlib.Data.Nat.Totient
import Mathlib.FieldTheory.Finite.Basic
/-
  pkg/paillier: the algebra of Paillier ciphertexts, in the unit group of `ZMod N²`.

  `PForm N c v` ("c encrypts v"):  c < N² and c = (1+N)^v · ρ^N in `ZMod N²` for some unit ρ.
  The Go operations are the group operations on representatives: `ExpI` on a unit is the integer
  power (`cast_expIVal`), so the form is closed under `EncWithNonce`, `Add` and `Mul` by the group
  laws, for both kinds of public key; `Dec` maps a ciphertext of the form to the centred
  representative of v mod N (`PForm.dec`), because a multiple of φ(N) as exponent kills ρ^N and
  (1+N)^k = 1 + k·N.
-/
namespace Mps.Paillier
open Nat

theorem sq_zero (N : ℕ) : (N : ZMod (N * N)) * N = 0 := by
  rw [← Nat.cast_mul, ZMod.natCast_self]

theorem add_mul_pow {R : Type*} [CommRing R] {n : R} (hn : n * n = 0) (y t : R) (k : ℕ) :
    (y + t * n) ^ k = y ^ k + k * y ^ (k - 1) * t * n := by
  induction k with
  | zero => simp
  | succ k ih =>
    rw [pow_succ, ih, Nat.add_sub_cancel]
    cases k with
    | zero => simp
    | succ j =>
      rw [Nat.add_sub_cancel]; push_cast
      linear_combination ((j + 1) * y ^ j * t * t) * hn

theorem pow_self_mod (N z : ℕ) : ((z % N : ℕ) : ZMod (N * N)) ^ N = (z : ZMod (N * N)) ^ N := by
  conv_rhs => rw [← Nat.mod_add_div z N]
  push_cast
  rw [mul_comm (N : ZMod (N * N)), add_mul_pow (sq_zero N)]
  linear_combination (-(((z % N : ℕ) : ZMod (N * N)) ^ (N - 1) * (z / N : ℕ))) * sq_zero N

theorem one_add_mul_lt {N j : ℕ} (hN : 1 < N) (hj : j < N) : 1 + j * N < N * N :=
  calc 1 + j * N < N + j * N := by omega
    _ = (j + 1) * N := by ring
    _ ≤ N * N := Nat.mul_le_mul_right N hj

theorem totient_sq (N : ℕ) (hN : 0 < N) : φ (N * N) = N * φ N := by
  have := Nat.totient_gcd_mul_totient_mul N N
  rw [Nat.gcd_self, Nat.mul_assoc] at this
  exact (Nat.eq_of_mul_eq_mul_left (Nat.totient_pos.mpr hN) this).trans (Nat.mul_comm _ _)

structure KeyOK (p q : ℕ) : Prop where
  hp : p.Prime
  hq : q.Prime
  hne : p ≠ q
  hco : Nat.Coprime (p * q) ((p - 1) * (q - 1))

namespace KeyOK
variable {p q : ℕ} (k : KeyOK p q)
include k

theorem coprime_pq : Nat.Coprime p q := (Nat.coprime_primes k.hp k.hq).mpr k.hne

theorem one_lt_N : 1 < p * q := k.hp.one_lt.trans_le (Nat.le_mul_of_pos_right p k.hq.pos)

theorem pos : 0 < p * q := Nat.zero_lt_of_lt k.one_lt_N

theorem totient_N : φ (p * q) = (p - 1) * (q - 1) := by
  rw [Nat.totient_mul k.coprime_pq, Nat.totient_prime k.hp, Nat.totient_prime k.hq]

theorem odd_N : (p * q) % 2 = 1 := by
  -- an even N would share the factor 2 with (p-1)(q-1), which is even as p, q are not both 2
  by_contra h
  have h2 : 2 ∣ (p - 1) * (q - 1) := by
    by_cases hp : p = 2
    · exact (k.hq.even_sub_one (hp ▸ k.hne.symm)).two_dvd.mul_left _
    · exact (k.hp.even_sub_one hp).two_dvd.mul_right _
  exact absurd (Nat.eq_one_of_dvd_coprimes k.hco (Nat.dvd_of_mod_eq_zero (Nat.mod_two_ne_one.mp h)) h2)
    (by decide)

theorem half_pred_eq : (p * q - 1) / 2 = p * q / 2 := by have := k.odd_N; omega

theorem mul_modInv_N : p * q * modInv (p * q) ((p - 1) * (q - 1)) ≡ 1 [MOD φ (p * q)] := by
  rw [k.totient_N]
  exact mul_modInv _ _ (k.totient_N ▸ Nat.totient_pos.mpr k.pos) k.hco

theorem coprime_sq : Nat.Coprime (p * p) (q * q) :=
  have h := k.coprime_pq
  (h.mul_right h).mul_left (h.mul_right h)

end KeyOK

section
variable (p q : ℕ)
@[simp] theorem sk_N : (SecretKey.ofPrimes p q).pk.N = p * q := rfl
@[simp] theorem sk_phi : (SecretKey.ofPrimes p q).phi = (p - 1) * (q - 1) := rfl
@[simp] theorem sk_phiInv : (SecretKey.ofPrimes p q).phiInv = modInv ((p - 1) * (q - 1)) (p * q) := rfl
@[simp] theorem pkN_N (N : ℕ) : (PublicKey.ofN N).N = N := rfl
end

theorem sk_N2 (p q : ℕ) : (SecretKey.ofPrimes p q).pk.N2 = (p * q) * (p * q) :=
  Nat.mul_mul_mul_comm p p q q

structure PublicKey.Computes (pk : PublicKey) (N : ℕ) : Prop where
  n : pk.n.Computes N
  n2 : pk.n2.Computes (N * N)

/-- `NewPublicKey`: plain exponentiation -/
theorem PublicKey.computes_ofN (N : ℕ) : (PublicKey.ofN N).Computes N :=
  ⟨Modulus.computes_ofN N, Modulus.computes_ofN (N * N)⟩

/-- the key inside a secret key: CRT exponentiation with (p, q) and (p², q²) -/
theorem KeyOK.computes {p q : ℕ} (k : KeyOK p q) : (SecretKey.ofPrimes p q).pk.Computes (p * q) :=
  ⟨Modulus.computes_ofFactors k.hp.pos k.hq.pos k.coprime_pq,
   Nat.mul_mul_mul_comm p p q q ▸ Modulus.computes_ofFactors (Nat.mul_pos k.hp.pos k.hp.pos)
     (Nat.mul_pos k.hq.pos k.hq.pos) k.coprime_sq⟩

/-- the ciphertext `EncWithNonce` returns when it does not refuse -/
def encVal (N : ℕ) (m : ℤ) (r : ℕ) : ℕ := expIVal (N * N) (N + 1) m * (r ^ N % (N * N)) % (N * N)

theorem encVal_lt (N : ℕ) (m : ℤ) (r : ℕ) (hN : 0 < N) : encVal N m r < N * N :=
  Nat.mod_lt _ (Nat.mul_pos hN hN)

theorem PublicKey.enc_eq_none_iff (pk : PublicKey) (m : ℤ) (r : ℕ) :
    pk.enc m r = none ↔ pk.N / 2 < m.natAbs := by
  unfold PublicKey.enc; split <;> simp [*]

namespace PublicKey.Computes
variable {pk : PublicKey} {N : ℕ} (h : pk.Computes N)
include h

theorem N_eq : pk.N = N := h.n.n_eq
theorem N2_eq : pk.N2 = N * N := h.n2.n_eq

theorem enc_eq (m : ℤ) (r : ℕ) :
    pk.enc m r = if N / 2 < m.natAbs then none else some (encVal N m r) := by
  simp only [PublicKey.enc, h.n2.expI_eq, h.n2.exp_eq, h.N_eq, h.N2_eq, modMul_eq, gt_iff_lt, encVal]

theorem enc_eq_some_iff {m : ℤ} {r c : ℕ} :
    pk.enc m r = some c ↔ m.natAbs ≤ N / 2 ∧ c = encVal N m r := by
  by_cases hm : N / 2 < m.natAbs
  · simp [h.enc_eq, hm]
  · simp [h.enc_eq, Nat.le_of_not_lt hm, eq_comm]

theorem enc_of_le {m : ℤ} (hm : m.natAbs ≤ N / 2) (r : ℕ) : pk.enc m r = some (encVal N m r) :=
  h.enc_eq_some_iff.mpr ⟨hm, rfl⟩

theorem mul_eq (c : ℕ) (e : ℤ) : pk.mul c e = expIVal (N * N) c e := h.n2.expI_eq c e

theorem add_eq (c₁ c₂ : ℕ) : pk.add c₁ c₂ = c₁ * c₂ % (N * N) := by
  rw [PublicKey.add, modMul_eq, h.N2_eq]

end PublicKey.Computes

/-- `Dec` with the `!`-test and `ModMul` spelt out -/
theorem SecretKey.decSA_eq (sk : SecretKey) (c : ℕ) : sk.decSA c =
    if sk.pk.validate c = true then
      some (symmSA ((sk.pk.n2.exp c sk.phi - 1) / sk.pk.N * sk.phiInv % sk.pk.N) sk.pk.N)
    else none := by
  unfold SecretKey.decSA; cases sk.pk.validate c <;> simp [modMul_eq]

theorem validate_eq {pk : PublicKey} {N : ℕ} (h : pk.N2 = N * N) (c : ℕ) :
    pk.validate c = validateCiphertext N c := by
  rw [validateCiphertext, PublicKey.validate, PublicKey.validate, h, (PublicKey.computes_ofN N).N2_eq]

theorem enc_eq (N : ℕ) (m : ℤ) (r : ℕ) :
    enc N m r = if N / 2 < m.natAbs then none else some (encVal N m r) :=
  (PublicKey.computes_ofN N).enc_eq m r

theorem validateCiphertext_iff (N c : ℕ) :
    validateCiphertext N c = true ↔ c < N * N ∧ Nat.Coprime c (N * N) := by
  rw [validateCiphertext, PublicKey.validate, (PublicKey.computes_ofN N).N2_eq, Bool.and_eq_true,
    decide_eq_true_iff, beq_iff_eq, Nat.Coprime]

/-- `newMta` when both encryptions go through -/
theorem mta_eq_some {sender receiver : PublicKey} {β' : ℤ} {s r f d0 : ℕ} (a : ℤ) (B : ℕ)
    (hf : sender.enc β' r = some f) (hd : receiver.enc β' s = some d0) :
    mta sender receiver a B β' s r = some ⟨-β', receiver.add d0 (receiver.mul B a), f⟩ := by
  rw [mta, hf, hd]

section units
variable {N : ℕ}

theorem coprime_succ_sq (N : ℕ) : Nat.Coprime (N + 1) (N * N) :=
  have : Nat.Coprime (N + 1) N := by simp
  this.mul_right this

/-- the base of the plaintext part of a ciphertext -/
def g (N : ℕ) : (ZMod (N * N))ˣ := ZMod.unitOfCoprime (N + 1) (coprime_succ_sq N)

theorem coe_g (N : ℕ) : ((g N : (ZMod (N * N))ˣ) : ZMod (N * N)) = ((N + 1 : ℕ) : ZMod (N * N)) := rfl

theorem g_pow (N k : ℕ) : ((g N ^ k : (ZMod (N * N))ˣ) : ZMod (N * N)) = 1 + k * N := by
  have := add_mul_pow (sq_zero N) 1 1 k
  rw [Units.val_pow_eq_pow_val, coe_g]
  push_cast
  linear_combination this

theorem g_pow_self (N : ℕ) : g N ^ N = 1 := by
  ext; rw [g_pow, Units.val_one, sq_zero, add_zero]

theorem g_zpow_congr {a b : ℤ} (h : a ≡ b [ZMOD (N : ℤ)]) : g N ^ a = g N ^ b := by
  obtain ⟨t, rfl⟩ := Int.modEq_iff_add_fac.mp h
  rw [zpow_add, zpow_mul, zpow_natCast, g_pow_self, one_zpow, mul_one]

theorem eq_one_add_mul_of_cast_eq {x : ℕ} {v : ℤ} (hN : 1 < N) (hx : x < N * N)
    (h : (x : ZMod (N * N)) = (g N ^ v : (ZMod (N * N))ˣ)) :
    ∃ j : ℕ, j < N ∧ (j : ℤ) ≡ v [ZMOD (N : ℤ)] ∧ x = 1 + j * N := by
  obtain ⟨j, hj, hjv⟩ := Int.existsUnique_equiv_nat v (Int.natCast_pos.mpr (Nat.zero_lt_of_lt hN))
  have hj : j < N := by exact_mod_cast hj
  refine ⟨j, hj, hjv, Nat.ModEq.eq_of_lt_of_lt ((ZMod.natCast_eq_natCast_iff _ _ _).mp ?_) hx
    (one_add_mul_lt hN hj)⟩
  rw [h, ← g_zpow_congr hjv, zpow_natCast, g_pow]; push_cast; rfl

theorem cast_eq_g_pow {x : ℕ} (h : x % N = 1) : (x : ZMod (N * N)) = (g N ^ (x / N) : (ZMod (N * N))ˣ) := by
  rw [g_pow]
  conv_lhs => rw [← Nat.mod_add_div x N, h]
  push_cast; ring

theorem cast_pow_unit {M x : ℕ} {u : (ZMod M)ˣ} (h : (x : ZMod M) = u) (k : ℕ) :
    ((x ^ k : ℕ) : ZMod M) = (u ^ k : (ZMod M)ˣ) := by
  rw [Nat.cast_pow, h, Units.val_pow_eq_pow_val]

theorem cast_modInv {M y : ℕ} (hM : 0 < M) {u : (ZMod M)ˣ} (h : (y : ZMod M) = u) :
    ((modInv y M : ℕ) : ZMod M) = (u⁻¹ : (ZMod M)ˣ) := by
  have hc : Nat.Coprime y M := (ZMod.isUnit_iff_coprime y M).mp (h ▸ u.isUnit)
  have := (ZMod.natCast_eq_natCast_iff _ _ _).mpr (mul_modInv y M hM hc)
  push_cast at this
  rw [h] at this
  exact (Units.inv_eq_of_mul_eq_one_right this).symm

theorem cast_expIVal {M x : ℕ} (hM : 0 < M) {u : (ZMod M)ˣ} (h : (x : ZMod M) = u) (e : ℤ) :
    ((expIVal M x e : ℕ) : ZMod M) = (u ^ e : (ZMod M)ˣ) := by
  have hp : ((x ^ e.natAbs % M : ℕ) : ZMod M) = (u ^ e.natAbs : (ZMod M)ˣ) := by
    rw [ZMod.natCast_mod, cast_pow_unit h]
  unfold expIVal
  split
  · next he => rw [cast_modInv hM hp, ← zpow_natCast, ← zpow_neg, Int.ofNat_natAbs_of_nonpos he.le, neg_neg]
  · next he => rw [hp, ← zpow_natCast, Int.natAbs_of_nonneg (not_lt.mp he)]

theorem exists_expIVal_succ (hN : 1 < N) (m : ℤ) :
    ∃ j : ℕ, j < N ∧ (j : ℤ) ≡ m [ZMOD (N : ℤ)] ∧ expIVal (N * N) (N + 1) m = 1 + j * N :=
  have hM : 0 < N * N := Nat.mul_pos (Nat.zero_lt_of_lt hN) (Nat.zero_lt_of_lt hN)
  eq_one_add_mul_of_cast_eq hN (expIVal_lt _ _ _ hM) (cast_expIVal hM (coe_g N).symm m)

/-- `DecWithRandomness` computes `(N+1)^(−m)` modulo `N`, not `N²` -/
theorem expIVal_of_mod_eq_one {M x : ℕ} (hM : 1 < M) (hx : x % M = 1) (e : ℤ) : expIVal M x e = 1 := by
  have h : (x : ZMod M) = ((1 : (ZMod M)ˣ) : ZMod M) := by
    rw [← ZMod.natCast_mod, hx, Nat.cast_one, Units.val_one]
  have : ((expIVal M x e : ℕ) : ZMod M) = ((1 : ℕ) : ZMod M) := by
    rw [cast_expIVal (Nat.zero_lt_of_lt hM) h e, one_zpow, Units.val_one, Nat.cast_one]
  exact ((ZMod.natCast_eq_natCast_iff _ _ _).mp this).eq_of_lt_of_lt
    (expIVal_lt _ _ _ (Nat.zero_lt_of_lt hM)) hM

theorem cast_encVal (hN : 0 < N) (m : ℤ) {r : ℕ} (hr : Nat.Coprime r N) :
    ((encVal N m r : ℕ) : ZMod (N * N)) =
      (g N ^ m * ZMod.unitOfCoprime r (hr.mul_right hr) ^ N : (ZMod (N * N))ˣ) := by
  rw [encVal, ZMod.natCast_mod, Nat.cast_mul, cast_expIVal (Nat.mul_pos hN hN) (coe_g N).symm,
    ZMod.natCast_mod, cast_pow_unit (ZMod.coe_unitOfCoprime r _).symm, Units.val_mul]

theorem encVal_nonce_mod (N : ℕ) (m : ℤ) (r : ℕ) : encVal N m (r % N) = encVal N m r := by
  have : (r % N) ^ N % (N * N) = r ^ N % (N * N) :=
    (ZMod.natCast_eq_natCast_iff' _ _ _).mp (by push_cast; exact pow_self_mod N r)
  rw [encVal, this, encVal]

end units

def PForm (N c : ℕ) (v : ℤ) : Prop :=
  c < N * N ∧ ∃ ρ : (ZMod (N * N))ˣ, (c : ZMod (N * N)) = (g N ^ v * ρ ^ N : (ZMod (N * N))ˣ)

namespace PForm
variable {N c c₁ c₂ : ℕ} {v v₁ v₂ : ℤ} {pk : PublicKey}

theorem coprime (h : PForm N c v) : Nat.Coprime c (N * N) := by
  obtain ⟨_, ρ, h⟩ := h
  exact (ZMod.isUnit_iff_coprime c _).mp (h ▸ Units.isUnit _)

theorem validate (h : PForm N c v) : validateCiphertext N c = true :=
  (validateCiphertext_iff N c).mpr ⟨h.1, h.coprime⟩

theorem enc (hk : pk.Computes N) (hN : 0 < N) {m : ℤ} {r : ℕ} (hr : Nat.Coprime r N)
    (h : pk.enc m r = some c) : PForm N c m := by
  obtain ⟨_, rfl⟩ := hk.enc_eq_some_iff.mp h
  exact ⟨encVal_lt N m r hN, _, cast_encVal hN m hr⟩

/-- an honest ciphertext under `NewPublicKey` -/
theorem of_enc (hN : 0 < N) {m : ℤ} {r : ℕ} (hr : Nat.Coprime r N) (h : Paillier.enc N m r = some c) :
    PForm N c m := enc (PublicKey.computes_ofN N) hN hr h

theorem add (hk : pk.Computes N) (h₁ : PForm N c₁ v₁) (h₂ : PForm N c₂ v₂) :
    PForm N (pk.add c₁ c₂) (v₁ + v₂) := by
  obtain ⟨hlt, ρ₁, h₁⟩ := h₁
  obtain ⟨_, ρ₂, h₂⟩ := h₂
  rw [hk.add_eq]
  refine ⟨Nat.mod_lt _ (Nat.zero_lt_of_lt hlt), ρ₁ * ρ₂, ?_⟩
  rw [ZMod.natCast_mod, Nat.cast_mul, h₁, h₂, ← Units.val_mul, zpow_add, mul_pow, mul_mul_mul_comm]

theorem mul (hk : pk.Computes N) (h : PForm N c v) (s : ℤ) : PForm N (pk.mul c s) (v * s) := by
  obtain ⟨hlt, ρ, h⟩ := h
  have hM : 0 < N * N := Nat.zero_lt_of_lt hlt
  rw [hk.mul_eq]
  refine ⟨expIVal_lt _ _ _ hM, ρ ^ s, ?_⟩
  rw [cast_expIVal hM h, mul_zpow, ← zpow_mul, ← zpow_natCast, ← zpow_natCast, zpow_comm]

end PForm

theorem symm_of_lt (x N : ℕ) (hx : x < N) :
    symm x N = if N ≤ 2 * x then (x : ℤ) - N else x := by
  have hng : (N - x) % N = if x = 0 then 0 else N - x := by
    split
    · next h => rw [h, Nat.sub_zero, Nat.mod_self]
    · exact Nat.mod_eq_of_lt (by omega)
  simp only [symm, symmSA, Nat.mod_eq_of_lt hx, hng]
  split_ifs <;> simp only [saToInt, if_true, Bool.false_eq_true, if_false] <;> omega

theorem symm_mod (x N : ℕ) : symm (x % N) N = symm x N := by
  simp only [symm, symmSA, Nat.mod_mod]

theorem symm_modEq {x N : ℕ} (hN : 0 < N) : symm x N ≡ x [ZMOD (N : ℤ)] := by
  have hx : ((x % N : ℕ) : ℤ) ≡ x [ZMOD (N : ℤ)] := Int.natCast_modEq_iff.mpr (Nat.mod_modEq x N)
  rw [← symm_mod, symm_of_lt _ _ (Nat.mod_lt x hN)]
  split
  · exact Int.sub_modulus_modEq_iff.mpr hx
  · exact hx

theorem symm_natAbs_le {x N : ℕ} (hN : 0 < N) : (symm x N).natAbs ≤ N / 2 := by
  have := Nat.mod_lt x hN
  rw [← symm_mod, symm_of_lt _ _ this]
  split <;> omega

theorem centred_unique {N : ℕ} {a b : ℤ} (hodd : N % 2 = 1) (h : a ≡ b [ZMOD (N : ℤ)])
    (ha : a.natAbs ≤ N / 2) (hb : b.natAbs ≤ N / 2) : a = b :=
  sub_eq_zero.mp (Int.eq_zero_of_abs_lt_dvd h.symm.dvd (by rw [abs_lt]; omega))

theorem symm_emod (v : ℤ) (N : ℕ) (hodd : N % 2 = 1) (hv : v.natAbs ≤ N / 2) :
    symm (v % (N : ℤ)).toNat N = v := by
  have hN : 0 < N := by omega
  have hc : (((v % (N : ℤ)).toNat : ℕ) : ℤ) = v % (N : ℤ) :=
    Int.toNat_of_nonneg (Int.emod_nonneg v (Int.natCast_pos.mpr hN).ne')
  exact centred_unique hodd ((symm_modEq hN).trans (hc ▸ Int.mod_modEq v N)) (symm_natAbs_le hN) hv

theorem natAbs_saToInt (s : Bool × ℕ) : (saToInt s).natAbs = s.2 := by
  unfold saToInt; split <;> simp

/-- `SetModSymmetric` returns the value 0 as negative zero -/
theorem symmSA_eq_of_toInt_eq_zero (x N : ℕ) (hz : saToInt (symmSA x N) = 0) : symmSA x N = (true, 0) := by
  have h2 : (symmSA x N).2 = 0 := by rw [← natAbs_saToInt, hz]; rfl
  unfold symmSA at h2 ⊢
  simp only at h2 ⊢
  split_ifs at h2 ⊢ with hle
  · exact Prod.ext rfl h2
  · rw [show x % N = 0 from h2, Nat.sub_zero, Nat.mod_self] at hle
    exact absurd (Nat.le_refl 0) hle

theorem PForm.pow_of_totient_dvd {N c : ℕ} {v : ℤ} (hN : 1 < N) (h : PForm N c v) {e : ℕ} (he : φ N ∣ e) :
    ∃ j : ℕ, j < N ∧ (j : ℤ) ≡ v * e [ZMOD (N : ℤ)] ∧ c ^ e % (N * N) = 1 + j * N := by
  obtain ⟨hlt, ρ, h⟩ := h
  obtain ⟨d, rfl⟩ := he
  have : ρ ^ (N * (φ N * d)) = 1 := by
    rw [← Nat.mul_assoc, ← totient_sq N (Nat.zero_lt_of_lt hN), pow_mul, ZMod.pow_totient, one_pow]
  refine eq_one_add_mul_of_cast_eq hN (Nat.mod_lt _ (Nat.zero_lt_of_lt hlt)) ?_
  rw [ZMod.natCast_mod, cast_pow_unit h, mul_pow, ← pow_mul, this, mul_one, ← zpow_natCast, ← zpow_mul]

theorem mul_inv_cancel_modEq {N j e d : ℕ} {v : ℤ} (hj : (j : ℤ) ≡ v * e [ZMOD (N : ℤ)])
    (hd : e * d ≡ 1 [MOD N]) : ((j * d % N : ℕ) : ℤ) ≡ v [ZMOD (N : ℤ)] := by
  have hd := Int.natCast_modEq_iff.mpr hd
  push_cast at hd ⊢
  calc (j : ℤ) * d % N ≡ j * d [ZMOD (N : ℤ)] := Int.mod_modEq _ _
    _ ≡ v * e * d [ZMOD (N : ℤ)] := hj.mul_right _
    _ = v * (e * d) := by ring
    _ ≡ v * 1 [ZMOD (N : ℤ)] := hd.mul_left _
    _ = v := mul_one v

namespace PForm
variable {p q c : ℕ} {v : ℤ} (h : PForm (p * q) c v) (k : KeyOK p q)
include h k

theorem dec : ∃ m, (SecretKey.ofPrimes p q).dec c = some m ∧
    m ≡ v [ZMOD ((p * q : ℕ) : ℤ)] ∧ m.natAbs ≤ (p * q) / 2 := by
  have hN0 := k.pos
  have hval : (SecretKey.ofPrimes p q).pk.validate c = true := by rw [validate_eq (sk_N2 p q), h.validate]
  obtain ⟨j, hj, hjv, hu⟩ := h.pow_of_totient_dvd k.one_lt_N (dvd_of_eq k.totient_N)
  have hx := mul_inv_cancel_modEq hjv (mul_modInv _ _ hN0 k.hco.symm)
  refine ⟨_, ?_, (symm_modEq hN0).trans hx, symm_natAbs_le hN0⟩
  rw [SecretKey.dec, SecretKey.decSA_eq, if_pos hval, k.computes.n2.exp_eq, sk_phi, sk_N, sk_phiInv, hu,
    Nat.add_sub_cancel_left, Nat.mul_div_cancel _ hN0]
  rfl

theorem dec_eq (hv : v.natAbs ≤ (p * q - 1) / 2) : (SecretKey.ofPrimes p q).dec c = some v := by
  obtain ⟨m, hm, hmv, hle⟩ := h.dec k
  rw [hm, centred_unique k.odd_N hmv hle (k.half_pred_eq ▸ hv)]

theorem dec_ne (hv : (p * q - 1) / 2 < v.natAbs) : (SecretKey.ofPrimes p q).dec c ≠ some v := by
  obtain ⟨m, hm, _, hle⟩ := h.dec k
  rw [hm, Ne, Option.some.injEq]
  rintro rfl
  exact absurd (k.half_pred_eq ▸ hv) hle.not_gt

end PForm

theorem nth_root {N d x y : ℕ} (hx : Nat.Coprime x N) (hd : N * d ≡ 1 [MOD φ N])
    (hy : y ≡ x ^ N [MOD N]) : y ^ d ≡ x [MOD N] := by
  have h1 : (x : ZMod N) ^ φ N = 1 := by
    simpa using (ZMod.natCast_eq_natCast_iff _ _ _).mpr (Nat.ModEq.pow_totient hx)
  rw [← ZMod.natCast_eq_natCast_iff] at hy ⊢
  push_cast at hy ⊢
  rw [hy, ← pow_mul, pow_eq_pow_of_modEq hd h1, pow_one]

/-- the nonce `DecWithRandomness` extracts -/
def nonceOf (p q c : ℕ) : ℕ := (c % (p * q)) ^ (modInv (p * q) ((p - 1) * (q - 1))) % (p * q)

section dwr
variable {p q : ℕ} (k : KeyOK p q)
include k

theorem dwr_eq (c : ℕ) :
    (SecretKey.ofPrimes p q).decWithRandomness c =
      ((SecretKey.ofPrimes p q).dec c).map
        (fun m => (m, nonceOf p q c)) := by
  unfold SecretKey.decWithRandomness nonceOf
  cases (SecretKey.ofPrimes p q).dec c with
  | none => rfl
  | some m =>
    simp only [Option.map_some, k.computes.n.expI_eq, k.computes.n.exp_eq, sk_N, sk_phi, modMul_eq,
      expIVal_of_mod_eq_one k.one_lt_N (Nat.add_mod_left _ _ ▸ Nat.mod_eq_of_lt k.one_lt_N), Nat.one_mul]

theorem nonceOf_spec {c : ℕ} (hc : Nat.Coprime c (p * q)) :
    Nat.Coprime (nonceOf p q c) (p * q) ∧
    nonceOf p q c ^ (p * q) ≡ c [MOD p * q] := by
  have hrN : nonceOf p q c ^ (p * q) ≡ c [MOD p * q] :=
    calc _ ≡ (c ^ (modInv (p * q) ((p - 1) * (q - 1)))) ^ (p * q) [MOD p * q] :=
          ((Nat.mod_modEq _ _).trans ((Nat.mod_modEq c _).pow _)).pow _
      _ = (c ^ (p * q)) ^ (modInv (p * q) ((p - 1) * (q - 1))) := by rw [← pow_mul, ← pow_mul, Nat.mul_comm]
      _ ≡ c [MOD p * q] := nth_root hc k.mul_modInv_N (Nat.ModEq.refl _)
  refine ⟨(Nat.coprime_pow_left_iff k.pos _ _).mp ?_, hrN⟩
  unfold Nat.Coprime; rw [hrN.gcd_eq]; exact hc

end dwr

/-- the quotient of `c` by `r^N` is `1` modulo `N`, hence a power of `1 + N` -/
theorem exists_cast_eq_of_pow_modEq {N c r : ℕ} (hN : 1 < N) (hr : Nat.Coprime r N)
    (h : r ^ N ≡ c [MOD N]) :
    ∃ t : ℕ, (c : ZMod (N * N)) =
      (g N ^ (t : ℤ) * ZMod.unitOfCoprime r (hr.mul_right hr) ^ N : (ZMod (N * N))ˣ) := by
  have hM : 0 < N * N := Nat.mul_pos (Nat.zero_lt_of_lt hN) (Nat.zero_lt_of_lt hN)
  have hρ := cast_pow_unit (ZMod.coe_unitOfCoprime r (hr.mul_right hr)).symm N
  have hx : c * modInv (r ^ N) (N * N) % N = 1 := by
    rw [← Nat.mod_eq_of_lt hN]
    exact (h.symm.mul_right _).trans ((mul_modInv _ _ hM ((hr.mul_right hr).pow_left N)).of_mul_right N)
  refine ⟨c * modInv (r ^ N) (N * N) / N, ?_⟩
  rw [zpow_natCast, Units.val_mul, ← cast_eq_g_pow hx, Nat.cast_mul, cast_modInv hM hρ, mul_assoc,
    Units.inv_mul, mul_one]

/-- every unit below `N²` is a ciphertext -/
theorem exists_encVal_eq {p q : ℕ} (k : KeyOK p q) {c : ℕ} (hlt : c < (p * q) * (p * q))
    (hc : Nat.Coprime c (p * q)) :
    ∃ m, (SecretKey.ofPrimes p q).dec c = some m ∧ m.natAbs ≤ (p * q) / 2 ∧
      c = encVal (p * q) m (nonceOf p q c) := by
  obtain ⟨hr, hrN⟩ := nonceOf_spec k hc
  obtain ⟨t, ht⟩ := exists_cast_eq_of_pow_modEq k.one_lt_N hr hrN
  obtain ⟨m, hdec, hm, hle⟩ := PForm.dec ⟨hlt, _, ht⟩ k
  refine ⟨m, hdec, hle, Nat.ModEq.eq_of_lt_of_lt ((ZMod.natCast_eq_natCast_iff _ _ _).mp ?_) hlt
    (encVal_lt _ _ _ k.pos)⟩
  rw [cast_encVal k.pos m hr, ht, g_zpow_congr hm]

theorem encVal_modEq {N : ℕ} (hN : 1 < N) (m : ℤ) (r : ℕ) : encVal N m r ≡ r ^ N [MOD N] := by
  obtain ⟨j, _, _, hj⟩ := exists_expIVal_succ hN m
  calc encVal N m r ≡ (1 + j * N) * (r ^ N % (N * N)) [MOD N] := by
        rw [encVal, hj]; exact (Nat.mod_modEq _ _).of_mul_right N
    _ ≡ 1 * r ^ N [MOD N] :=
        (Nat.add_mul_modulus_modEq_iff.mpr (Nat.ModEq.refl 1)).mul ((Nat.mod_modEq _ _).of_mul_right N)
    _ = r ^ N := Nat.one_mul _

theorem nonceOf_encVal {p q : ℕ} (k : KeyOK p q) (m : ℤ) {ρ : ℕ} (hρ : Nat.Coprime ρ (p * q)) :
    nonceOf p q (encVal (p * q) m ρ) = ρ % (p * q) :=
  nth_root hρ k.mul_modInv_N ((Nat.mod_modEq _ _).trans (encVal_modEq k.one_lt_N m ρ))

end Mps.Paillier
